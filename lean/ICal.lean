import ICal.Props.C01
import ICal.Props.C02
import ICal.Props.C03
import ICal.Props.C04
import ICal.Props.C05
import ICal.Props.C06
import ICal.Props.C07
import ICal.Props.C08
import ICal.Props.C09
import ICal.Props.C10
import ICal.Props.C11
import ICal.Props.C12
import ICal.Props.C13
import ICal.Props.C14
import ICal.Props.C15
import ICal.Props.C16
import ICal.Props.C17
import ICal.Props.C18
import ICal.Props.C19
import ICal.Props.C20
import ICal.Driver.Text
