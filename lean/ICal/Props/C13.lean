/-
  C13 — a VTIMEZONE generated from a provider zone reproduces the zone.
  Property theorems only; helper lemmas are in ICal/Lemmas/TzGen.lean, the model in
  ICal/Model/TzGen.lean (`fromInfo` / `fromTzinfo` = Timezone.from_tzinfo: outer loop, coarse-to-fine
  search with retract and overflow break, grouping by (from, to, name, is_standard), DTSTART/RDATE
  emission) and ICal/Model/Tz.lean (`specAt` = the RFC 5545 reading).
  The zone is a function `info` of the algorithm's own clock; the theorems about the RFC reading are
  for the UTC clock (pytz path: wall time written = x + offset); the wall-clock variant (zoneinfo) is
  covered by the correspondence run and the oracle.
-/
import ICal.Lemmas.TzGen
namespace ICal.C13
open ICal.Tz (Obs specAt specEntries specAt_latest specAt_none)
open ICal.TzGen

/-- The coarse-to-fine search finds the next offset change exactly: if the offset is `o` on
    `[s, T)`, differs at `T` and does not come back to `o` within the coarsest step (64 days), the
    search with the code's step list stops one tick before `T` (so the next segment starts at `T`). -/
theorem search_finds_next (off : Int → Int) (o s T H : Int) (hsT : s < T)
    (hB : ∀ t, s ≤ t → t < T → off t = o) (hA : ∀ t, T ≤ t → t < T + maxStep → off t ≠ o)
    (hH : T + maxStep ≤ H) : search off o H skipSearch s = .ok (T - 1) :=
  search_next skipSearch_desc skipSearch_steps skipSearch_last hsT hB hA hH

/-- The outer loop finds every transition: along a chain of visible offset changes the segments it
    produces start exactly at the chain points before `last`, each with the zone's offset, name and
    dst flag at its start, the wall time of its start, and the offset in force before it. -/
theorem gen_onset (info : Int → Info) (wallOf : Int → Int) (H first last : Int) (Ts : List Int)
    (hc : Chain info H last first Ts) (hH : last + maxStep ≤ H) :
    outer info wallOf skipSearch H last ((last - first).toNat + 1) first none
      = some (segsOf info wallOf last none first Ts) ∧
    ∀ g ∈ segsOf info wallOf last none first Ts,
      first ≤ g.start ∧ g.start < last ∧ g.offTo = (info g.start).off ∧ g.name = (info g.start).name ∧
      g.isStd = (info g.start).isStd ∧ g.wall = wallOf g.start :=
  ⟨outer_chain_window hH hc, segsOf_inv hH hc⟩

/-- The applicability check the driver runs on the table of every real zone is sound: when
    `chainOK` answers true for an ascending table, the zone has a `Chain` in the sense of
    `gen_onset` / `gen_faithful_partial` (so the zones the theorems cover are computed, not assumed). -/
theorem chainOK_sound (Z : Zone) (H first last : Int) (hs : sortedRows Z.rows = true)
    (hc : chainOK Z.init Z.rows first last = true) (hH : last + maxStep ≤ H) :
    ∃ Ts, Chain Z.info H last first Ts :=
  chainGo_sound Z.info H first last hH Z.rows Z.init first (Int.le_refl _) hs (.inl rfl) (fun _ _ => rfl) hc

/-- the generated component, read by RFC 5545 onset rules at `t`, says `i` -/
def Reads (gen : List GenObs) (t : Int) (i : Info) : Prop :=
  ∃ b, specAt (gen.map toObs) t = some b ∧ b.2.offTo = i.off ∧ b.2.name = i.name ∧ b.2.isDst = !i.isStd

/-- C13 (faithfulness) at full strength, UTC clock: whatever the zone, at every instant of the
    window the generated component reads as the zone. FALSE on the code (D16a, D16b): see
    `short_excursion_witness` and `onset_shift_witness`. -/
def gen_faithful_full : Prop :=
  ∀ (Z : Zone), Z.wallIsClock = false → ∀ (H first last lastWall : Int) (gen : List GenObs),
    last + maxStep ≤ H → fromTzinfo Z H first last lastWall = some gen →
    ∀ t, first ≤ t → t < last → Reads gen t (Z.info t)

/-- C13 (faithfulness) as it holds of the code, UTC clock. Hypotheses beyond the full statement:
    * `Chain`: every change in the window is an offset change that persists for the coarsest step
      (complement of the finding class `tzgen-excursion`, decided per zone by `chainOK`);
    * `hout`: `t` does not lie between a transition and the onset the generated component gives it
      (complement of `tzgen-onset-shift`; `onsetOf g = g.start + (to − from)`, see `onset_is_shifted`);
    * `hsep`: the misplaced onsets are still in the order of the transitions;
    * `hnld`: no wall time of a start falls on `last_date` (the code moves such a DTSTART to midnight). -/
theorem gen_faithful_partial (info : Int → Info) (H first last lastWall : Int) (Ts : List Int)
    (hc : Chain info H last first Ts) (hH : last + maxStep ≤ H) (gen : List GenObs)
    (hgen : fromInfo info (fun x => x + (info x).off) H first last lastWall = some gen)
    (hnld : ∀ g ∈ segsOf info (fun x => x + (info x).off) last none first Ts,
      ¬ (lastWall ≤ g.wall ∧ g.wall < lastWall + 86400))
    (hsep : ∀ a ∈ segsOf info (fun x => x + (info x).off) last none first Ts,
      ∀ b ∈ segsOf info (fun x => x + (info x).off) last none first Ts, a.start < b.start → onsetOf a < onsetOf b)
    (t : Int) (h1 : first ≤ t) (h2 : t < last)
    (hout : ∀ g ∈ segsOf info (fun x => x + (info x).off) last none first Ts,
      (g.start ≤ t → onsetOf g ≤ t) ∧ (onsetOf g ≤ t → g.start ≤ t)) :
    Reads gen t (info t) := by
  obtain ⟨segs, hs, rfl⟩ := fromInfo_some hgen
  rw [outer_chain_window hH hc] at hs
  cases hs
  obtain ⟨gs, hgs, hgst, hgi, hgmax⟩ := chain_info (fun x => x + (info x).off) hH none hc t h1 h2
  obtain ⟨b, sb, hsp, hsb, heq, r1, r2, r3⟩ := gen_reads hnld hsep t hout gs hgs hgst hgmax
  obtain ⟨k1, k2, k3, _⟩ := segsOf_ok hsb
  exact ⟨b, hsp, by rw [r1, k1, heq, ← hgi], by rw [r2, k2, heq, ← hgi], by rw [r3, k3, heq, ← hgi]⟩

/-- End to end for a zone given by its table (UTC clock): when the driver's check `chainOK` accepts the
    table, the generated component exists and reads as the zone at every instant of the window that
    does not lie between a transition and its misplaced onset. All hypotheses are statements about
    the table and the segments the loop produced; none mentions a chain. -/
theorem gen_faithful_zone (Z : Zone) (hclock : Z.wallIsClock = false) (H first last lastWall : Int)
    (hs : sortedRows Z.rows = true) (hc : chainOK Z.init Z.rows first last = true) (hH : last + maxStep ≤ H)
    (segs : List Seg)
    (hsegs : outer Z.info Z.wall skipSearch H last ((last - first).toNat + 1) first none = some segs)
    (hnld : ∀ g ∈ segs, ¬ (lastWall ≤ g.wall ∧ g.wall < lastWall + 86400))
    (hsep : ∀ a ∈ segs, ∀ b ∈ segs, a.start < b.start → onsetOf a < onsetOf b)
    (t : Int) (h1 : first ≤ t) (h2 : t < last)
    (hout : ∀ g ∈ segs, (g.start ≤ t → onsetOf g ≤ t) ∧ (onsetOf g ≤ t → g.start ≤ t)) :
    ∃ gen, fromTzinfo Z H first last lastWall = some gen ∧ Reads gen t (Z.info t) := by
  obtain ⟨Ts, hTs⟩ := chainOK_sound Z H first last hs hc hH
  have hwall : Z.wall = fun x => x + (Z.info x).off := by
    funext x; simp [Zone.wall, hclock]
  have hgen : fromTzinfo Z H first last lastWall = some ((group segs).map (emit lastWall)) := by
    unfold fromTzinfo fromInfo; rw [hsegs]; rfl
  refine ⟨_, hgen, ?_⟩
  unfold fromTzinfo at hgen
  rw [hwall] at hsegs hgen
  rw [outer_chain_window hH hTs] at hsegs
  cases hsegs
  exact gen_faithful_partial Z.info H first last lastWall Ts hTs hH _ hgen hnld hsep t h1 h2 hout

/-- On the UTC clock the onset the generated component gives a transition at `g.start` is
    misplaced by `to − from` (D16b): DTSTART is the wall time *after* the change. -/
theorem onset_is_shifted (info : Int → Info) (last first : Int) (Ts : List Int) :
    ∀ g ∈ segsOf info (fun x => x + (info x).off) last none first Ts,
      onsetOf g = g.start + (g.offTo - g.offFrom.getD g.offTo) := by
  intro g hg
  obtain ⟨k1, _, _, k4⟩ := segsOf_ok hg
  simp only [onsetOf, k4, k1]; omega

/-! ## witnesses (UTC clock, window [0, 3 000 000), horizon just beyond the coarsest step) -/

def CET : Str := ['C', 'E', 'T']
def CEST : Str := ['C', 'E', 'S', 'T']

/-- +01:00 until 1 000 000, then +02:00 (a DST onset) -/
def zShift : Zone := ⟨⟨3600, true, CET⟩, [⟨1000000, ⟨7200, false, CEST⟩⟩], false⟩

/-- D16b: the zone is on +02:00 from 1 000 000 on, the generated component (DTSTART = wall time after
    the change = 1 007 200, TZOFFSETFROM +01:00) places the onset at 1 003 600: at 1 000 000 it still
    reads +01:00 CET. -/
theorem onset_shift_witness :
    fromTzinfo zShift 8529600 0 3000000 3000000 =
      some [⟨true, 3600, 3600, CET, 3600, []⟩, ⟨false, 3600, 7200, CEST, 1007200, []⟩] ∧
    (specAt ([⟨true, 3600, 3600, CET, 3600, []⟩, ⟨false, 3600, 7200, CEST, 1007200, []⟩].map toObs) 1000000).map
      (fun b => (b.2.offTo, b.2.name)) = some (3600, CET) ∧
    zShift.info 1000000 = ⟨7200, false, CEST⟩ := by
  decide +kernel

/-- +00:00, ten days of +01:00 from 1 000 000, back to +00:00 -/
def zExcursion : Zone :=
  ⟨⟨0, true, ['G', 'M', 'T']⟩, [⟨1000000, ⟨3600, false, ['B', 'S', 'T']⟩⟩, ⟨1864000, ⟨0, true, ['G', 'M', 'T']⟩⟩], false⟩

/-- D16a: the 64-day probe steps over the ten-day excursion; the generated component has the single
    observance +00:00 and reads +00:00 inside the excursion. -/
theorem short_excursion_witness :
    fromTzinfo zExcursion 8529600 0 3000000 3000000 = some [⟨true, 0, 0, ['G', 'M', 'T'], 0, []⟩] ∧
    (specAt ([⟨true, 0, 0, ['G', 'M', 'T'], 0, []⟩].map toObs) 1500000).map (fun b => b.2.offTo) = some 0 ∧
    (zExcursion.info 1500000).off = 3600 ∧
    chainOK zExcursion.init zExcursion.rows 0 3000000 = false := by
  decide +kernel

/-- the full-strength statement is false of the code -/
theorem gen_faithful_full_false : ¬ gen_faithful_full := by
  intro h
  obtain ⟨w1, w2, w3⟩ := onset_shift_witness
  obtain ⟨b, hb, ho, _⟩ := h zShift rfl 8529600 0 3000000 3000000 _ (by decide) w1 1000000 (by decide) (by decide)
  rw [hb] at w2
  rw [w3] at ho
  simp at w2
  simp at ho
  omega

/-! ## well-formedness (no assumption on the zone) -/

/-- The generated component is well-formed for every zone and window (when no overflow escapes):
    at least one observance; every observance carries DTSTART, TZOFFSETFROM, TZOFFSETTO, TZNAME (by
    construction of `GenObs`); its offset, name and STANDARD/DAYLIGHT kind are the zone's at some
    clock value of the window; and every onset (DTSTART or RDATE) is the wall time of a clock value
    inside the window, or midnight of `last_date`. -/
theorem gen_wellformed (info : Int → Info) (wallOf : Int → Int) (H first last lastWall : Int)
    (gen : List GenObs) (hfl : first < last)
    (hgen : fromInfo info wallOf H first last lastWall = some gen) :
    gen ≠ [] ∧ ∀ g ∈ gen,
      (∃ c, first ≤ c ∧ c < last ∧ g.offTo = (info c).off ∧ g.name = (info c).name ∧ g.isStd = (info c).isStd) ∧
      ∀ x ∈ g.dtstart :: g.rdates, x = lastWall ∨ ∃ c, first ≤ c ∧ c < last ∧ x = wallOf c := by
  obtain ⟨segs, hs, rfl⟩ := fromInfo_some hgen
  obtain ⟨hsegs, _, _⟩ := outer_inv hs
  constructor
  · -- the first iteration always contributes a segment, and its key is in the dict
    obtain ⟨s, hsm⟩ : ∃ s, s ∈ segs := by
      rcases outer_succ hs with ⟨h, _⟩ | ⟨_, e, tl, _, _, rfl⟩
      · exact absurd hfl h
      · exact ⟨_, List.mem_cons_self⟩
    intro h
    have hq := (group_spec segs).2.2 s hsm
    rw [List.map_eq_nil_iff.mp h] at hq
    cases hq
  · intro g hg
    obtain ⟨q, hq, rfl⟩ := List.mem_map.mp hg
    obtain ⟨hne, hall⟩ := group_mem segs q hq
    constructor
    · obtain ⟨w, hw⟩ := List.exists_mem_of_ne_nil _ hne
      obtain ⟨s, hsm, hk, _⟩ := hall w hw
      obtain ⟨c1, c2, k1, k2, k3, _⟩ := hsegs s hsm
      obtain ⟨_, e2, e3, e4⟩ := emit_entry lastWall q s hk
      exact ⟨s.start, c1, c2, e2.trans k1, e3.trans k2, e4.trans k3⟩
    · intro x hx
      rcases emit_onsets_mem lastWall q.1 q.2 hne x hx with h | h
      · exact .inl h
      · obtain ⟨s, hsm, _, hw⟩ := hall x h
        obtain ⟨c1, c2, _, _, _, k4⟩ := hsegs s hsm
        exact .inr ⟨s.start, c1, c2, hw ▸ k4⟩

/-- The grouping key `(offset_from, offset_to, tzname, is_standard)` is unique across the generated
    observances: the component has exactly one STANDARD/DAYLIGHT sub-component per key, each the
    emission of a non-empty list of starts. -/
theorem gen_keys_unique (info : Int → Info) (wallOf : Int → Int) (H first last lastWall : Int)
    (gen : List GenObs) (hgen : fromInfo info wallOf H first last lastWall = some gen) :
    ∃ groups : List (Key × List Int), gen = groups.map (emit lastWall) ∧ (groups.map (·.1)).Nodup ∧
      ∀ q ∈ groups, q.2 ≠ [] := by
  obtain ⟨segs, _, hg⟩ := fromInfo_some hgen
  obtain ⟨h1, h2, _⟩ := group_spec segs
  exact ⟨group segs, hg, h1, fun q hq => (h2 q hq).2⟩

/-- Within every generated observance the onsets are strictly increasing, DTSTART first: DTSTART is
    the earliest start of its group (also when it was moved to midnight of `last_date`) and the RDATEs
    follow in time order without repetition — for every zone whose wall time grows with the clock
    while the offset is the same (true of both clocks, see `gen_onsets_increasing_zone`). -/
theorem gen_onsets_increasing (info : Int → Info) (wallOf : Int → Int) (H first last lastWall : Int)
    (gen : List GenObs)
    (hmono : ∀ x y, first ≤ x → x < y → y < last → (info x).off = (info y).off → wallOf x < wallOf y)
    (hgen : fromInfo info wallOf H first last lastWall = some gen) :
    ∀ g ∈ gen, (g.dtstart :: g.rdates).Pairwise (· < ·) := by
  obtain ⟨segs, hs, rfl⟩ := fromInfo_some hgen
  obtain ⟨i1, i2, _⟩ := outer_inv hs
  intro g hgm
  obtain ⟨⟨k, ws⟩, hq, rfl⟩ := List.mem_map.mp hgm
  obtain ⟨hw, hne⟩ := (group_spec segs).2.1 _ hq
  have hsorted : ws.Pairwise (· < ·) := by
    rw [show ws = walls segs k from hw]
    exact walls_sorted i1 i2 hmono k
  cases ws with
  | nil => exact absurd rfl hne
  | cons w r => exact (emit_sorted lastWall k w r hsorted).2.2

/-- ... in particular for a zone given by its table, on either clock (pytz: wall = clock + offset,
    zoneinfo: wall = clock). -/
theorem gen_onsets_increasing_zone (Z : Zone) (H first last lastWall : Int) (gen : List GenObs)
    (hgen : fromTzinfo Z H first last lastWall = some gen) :
    ∀ g ∈ gen, (g.dtstart :: g.rdates).Pairwise (· < ·) := by
  apply gen_onsets_increasing Z.info Z.wall H first last lastWall gen ?_ hgen
  intro x y _ hxy _ hoff
  unfold Zone.wall
  split
  · exact hxy
  · omega

/-- The first generated observance is the one of the window start: TZOFFSETFROM = TZOFFSETTO (the
    code's convention for "no previous offset"), the zone's offset, name and kind at `first`, no
    RDATE, and DTSTART = the wall time of `first` (or midnight of `last_date`). -/
theorem gen_first_observance (info : Int → Info) (wallOf : Int → Int) (H first last lastWall : Int)
    (gen : List GenObs) (hfl : first < last) (hgen : fromInfo info wallOf H first last lastWall = some gen) :
    ∃ d rest, gen = ⟨(info first).isStd, (info first).off, (info first).off, (info first).name, d, []⟩ :: rest ∧
      (d = wallOf first ∨ (d = lastWall ∧ lastWall ≤ wallOf first ∧ wallOf first < lastWall + 86400)) := by
  obtain ⟨segs, hs, rfl⟩ := fromInfo_some hgen
  obtain ⟨_, _, i3⟩ := outer_inv hs
  rcases outer_succ hs with ⟨h, _⟩ | ⟨_, e, tl, _, _, rfl⟩
  · exact absurd hfl h
  · obtain ⟨_, hsome⟩ := i3 _ tl rfl
    -- every later segment has a TZOFFSETFROM, so none has the key of the first: its group is the single start
    rw [group_cons_fresh _ tl (fun s hs' e => by
      have h1 := hsome s hs'
      rw [show s.offFrom = none from congrArg Key.offFrom e] at h1
      cases h1)]
    obtain ⟨_, hd, _⟩ := emit_sorted lastWall ⟨none, (info first).off, (info first).name, (info first).isStd⟩
      (wallOf first) [] (List.pairwise_singleton _ _)
    refine ⟨_, (group tl).map (emit lastWall), ?_, hd⟩
    simp only [List.map_cons, emit, listMin, List.erase_cons_head, Option.getD_none]
    rfl

/-- One onset per iteration of the outer loop: the DTSTARTs and RDATEs of the generated component
    are as many as the segments the loop found ... -/
theorem gen_onset_count (info : Int → Info) (wallOf : Int → Int) (H first last lastWall : Int)
    (gen : List GenObs) (hgen : fromInfo info wallOf H first last lastWall = some gen) :
    ∃ segs, outer info wallOf skipSearch H last ((last - first).toNat + 1) first none = some segs ∧
      (gen.map fun g => 1 + g.rdates.length).sum = segs.length := by
  obtain ⟨segs, hs, hg⟩ := fromInfo_some hgen
  refine ⟨segs, hs, ?_⟩
  obtain ⟨_, h2, _⟩ := group_spec segs
  rw [hg, List.map_map]
  have : (group segs).map ((fun g : GenObs => 1 + g.rdates.length) ∘ emit lastWall) =
      (group segs).map (·.2.length) := by
    apply List.map_congr_left
    intro q hq
    exact emit_count lastWall q (h2 q hq).2
  rw [this]
  have := sumLen_group segs []
  simpa [group] using this

/-- ... and along a chain of visible offset changes that is one (the window start) plus the number
    of offset changes before `last`: no transition is lost and none is invented. -/
theorem gen_onset_count_chain (info : Int → Info) (wallOf : Int → Int) (H first last lastWall : Int)
    (Ts : List Int) (hc : Chain info H last first Ts) (hH : last + maxStep ≤ H) (hfl : first < last)
    (gen : List GenObs) (hgen : fromInfo info wallOf H first last lastWall = some gen) :
    (gen.map fun g => 1 + g.rdates.length).sum = 1 + (Ts.filter fun T => decide (T < last)).length := by
  obtain ⟨segs, hs, hsum⟩ := gen_onset_count info wallOf H first last lastWall gen hgen
  rw [outer_chain_window hH hc] at hs
  simp only [Option.some.injEq] at hs
  rw [hsum, ← hs]
  exact segsOf_length hc hfl

/-! ## generating again -/

/-- Generating again gives the same component from ANY zone object that answers like the source
    zone at the clock values `from_tzinfo` reads — the window and the look-ahead up to the horizon
    (`first ≤ x ≤ H`) — and runs on the same clock: `from_tzinfo` depends on nothing else. So the
    regeneration clause holds exactly as far as the conversion back is faithful there. -/
theorem regen_same_if_faithful (Z Z' : Zone) (H first last lastWall : Int) (hlast : last ≤ H + 1)
    (hclock : Z'.wallIsClock = Z.wallIsClock)
    (hinfo : ∀ x, first ≤ x → x ≤ H → Z'.info x = Z.info x) :
    fromTzinfo Z' H first last lastWall = fromTzinfo Z H first last lastWall := by
  unfold fromTzinfo
  apply fromInfo_congr lastWall hinfo ?_ hlast
  intro x h1 h2
  unfold Zone.wall
  rw [hclock, hinfo x h1 (by omega)]

/-- The regeneration clause at full strength on the UTC clock (pytz route): `Z'` is any zone that
    answers as the RFC 5545 reading of the generated component (which is what the pytz conversion
    gives, C12 `lookup_is_spec`). FALSE on the code: `regen_shift_witness`. -/
def regen_full : Prop :=
  ∀ (Z Z' : Zone), Z.wallIsClock = false → Z'.wallIsClock = false →
    ∀ (H first last lastWall : Int) (gen : List GenObs), last + maxStep ≤ H →
      fromTzinfo Z H first last lastWall = some gen →
      (∀ t, first ≤ t → Reads gen t (Z'.info t)) →
      fromTzinfo Z' H first last lastWall = some gen

/-- the component generated from `zShift` -/
def genShift : List GenObs := [⟨true, 3600, 3600, CET, 3600, []⟩, ⟨false, 3600, 7200, CEST, 1007200, []⟩]

/-- the zone the RFC reading of `genShift` describes: the change is at 1 003 600, not at 1 000 000 -/
def zBack : Zone := ⟨⟨3600, true, CET⟩, [⟨1003600, ⟨7200, false, CEST⟩⟩], false⟩

/-- finding `tzgen-onset-shift`, regeneration part: the converted zone changes an hour late, and
    generating again moves DTSTART of the DAYLIGHT observance by another hour (1 007 200 → 1 010 800). -/
theorem regen_shift_witness :
    fromTzinfo zShift 8529600 0 3000000 3000000 = some genShift ∧
    (∀ t, 0 ≤ t → Reads genShift t (zBack.info t)) ∧
    fromTzinfo zBack 8529600 0 3000000 3000000 =
      some [⟨true, 3600, 3600, CET, 3600, []⟩, ⟨false, 3600, 7200, CEST, 1010800, []⟩] := by
  refine ⟨onset_shift_witness.1, ?_, by decide +kernel⟩
  intro t ht
  have he : specEntries (genShift.map toObs) =
      [(0, toObs ⟨true, 3600, 3600, CET, 3600, []⟩), (1003600, toObs ⟨false, 3600, 7200, CEST, 1007200, []⟩)] := by
    decide +kernel
  unfold Reads specAt
  rw [he]
  by_cases h : (1003600 : Int) ≤ t
  · refine ⟨(1003600, toObs ⟨false, 3600, 7200, CEST, 1007200, []⟩), by simp [ICal.Tz.better, ht, h], ?_⟩
    simp [Zone.info, zBack, infoAt, h, toObs]
  · refine ⟨(0, toObs ⟨true, 3600, 3600, CET, 3600, []⟩), by simp [ICal.Tz.better, ht, h], ?_⟩
    simp [Zone.info, zBack, infoAt, h, toObs]

theorem regen_full_false : ¬ regen_full := by
  intro h
  obtain ⟨w1, w2, w3⟩ := regen_shift_witness
  have := h zShift zBack rfl rfl 8529600 0 3000000 3000000 genShift (by decide) w1 w2
  rw [w3] at this
  revert this
  decide +kernel

/-- non-vacuity of `regen_same_if_faithful`: a table with a redundant row describes the same zone -/
example : ∀ x, (0 : Int) ≤ x → x ≤ 8529600 →
    (⟨⟨3600, true, CET⟩, [⟨500000, ⟨3600, true, CET⟩⟩, ⟨1000000, ⟨7200, false, CEST⟩⟩], false⟩ : Zone).info x =
      zShift.info x := by
  intro x _ _
  simp only [Zone.info, zShift, infoAt]
  by_cases h1 : (500000 : Int) ≤ x <;> by_cases h2 : (1000000 : Int) ≤ x <;> simp [h1, h2] <;> omega

example : (genShift.map fun g => 1 + g.rdates.length).sum = 1 + ([1000000].filter fun T => decide (T < (3000000 : Int))).length := by
  decide +kernel

/-! Non-vacuity: the zone of `onset_shift_witness` has a chain in the sense of the theorems, and the
    applicability check of the driver agrees. -/
example : Chain zShift.info 8529600 3000000 0 [1000000] := by
  have hinfo : ∀ t, zShift.info t = if 1000000 ≤ t then ⟨7200, false, CEST⟩ else ⟨3600, true, CET⟩ := by
    intro t; simp [Zone.info, zShift, infoAt]
  refine Chain.step (by decide) ?_ ?_ (by decide) (Chain.const ?_)
  · intro t h1 h2; rw [hinfo, hinfo]; simp; omega
  · intro t h1 h2; rw [hinfo, hinfo]; simp [show (1000000 : Int) ≤ t from h1]
  · intro t h1 h2; rw [hinfo, hinfo]; simp [show (1000000 : Int) ≤ t from h1]
example : chainOK zShift.init zShift.rows 0 3000000 = true := by decide +kernel

end ICal.C13
