/-
  C16 — start / end / duration of VEVENT, VTODO (and VJOURNAL) after any edit history.
  Property theorems only; the model is ICal/Model/StartEnd.lean, helper lemmas ICal/Lemmas/StartEnd.lean.

  `getStart / getEnd / getDuration` model `.start / .end / .duration`; `getProp`, `getDur` the upper-case
  accessors; `step` one setter / deleter / `add` operation; `run` a whole history (an operation that raises
  leaves the component unchanged).  Values: `date d` (day number), `floating w`, `utc w`, `zoned z w off`
  (wall-clock seconds), durations are whole seconds.
-/
import ICal.Lemmas.StartEnd
import ICal.Lemmas.BodiesSE
import ICal.Lemmas.BodiesSEFull
import ICal.Lemmas.BodiesSEDesc
namespace ICal.C16
open ICal.SE

/-! ## exclusivity over setter / deleter histories -/

/-- The `exclusive` tuples of cal.py as regenerated into `Gen.compClasses` on this run.  `excl_step` and `excl_inv`
    are proved through the three equations collected here (`exclusive_event`, `exclusive_todo`, `exclusive_journal` of
    Lemmas/StartEnd.lean, by way of `inv_step`), so a changed group breaks them. -/
theorem exclusive_groups :
    exclusive .event = [.dtend, .duration] ∧ exclusive .todo = [.due, .duration] ∧ exclusive .journal = [] :=
  ⟨exclusive_event, exclusive_todo, exclusive_journal⟩

/-- A new component holds neither an end property nor DURATION. -/
theorem excl_init : Inv St.init := by simp [SE.Inv, St.init, Slot.present]

/-- One setter or deleter call, whatever its argument and whether or not it raises, keeps
    "not both DTEND and DURATION, not both DUE and DURATION" — from *any* state that has it. -/
theorem excl_step (c : Cls) (s : St) (op : Op) (he : op.isEdit = true) (hi : Inv s) : Inv (next c s op) :=
  inv_step c s op he hi

/-- From any starting state that satisfies the invariant (e.g. a parsed, valid component), every state reached by setter and
    deleter calls satisfies it. -/
theorem excl_inv_from (c : Cls) (s : St) (ops : List Op) (hi : Inv s) (h : ∀ op ∈ ops, op.isEdit = true) :
    Inv (run c s ops) := by
  induction ops generalizing s with
  | nil => exact hi
  | cons op rest ih =>
    exact ih (next c s op) (excl_step c s op (h op List.mem_cons_self) hi) (fun o ho => h o (List.mem_cons_of_mem _ ho))

/-- Every state reachable from a new Event / Todo / Journal by any sequence of DTSTART, DTEND, DUE, DURATION,
    start, end setter calls (with None, wrong-typed, date, date-time or timedelta arguments) and deleter calls
    holds at most one of the end property and DURATION. -/
theorem excl_inv (c : Cls) (ops : List Op) (h : ∀ op ∈ ops, op.isEdit = true) :
    ¬ ((run c St.init ops).dtend.present = true ∧ (run c St.init ops).duration.present = true) ∧
    ¬ ((run c St.init ops).due.present = true ∧ (run c St.init ops).duration.present = true) :=
  excl_inv_from c St.init ops excl_init h

/-- Consequently the "both" error never fires after a setter / deleter history. -/
theorem excl_getters (c : Cls) (ops : List Op) (h : ∀ op ∈ ops, op.isEdit = true) :
    ¬ (((run c St.init ops).get (endKey c)).present = true ∧ (run c St.init ops).duration.present = true)
      ∨ c = .journal := by
  have hi := excl_inv c ops h
  cases c
  · exact Or.inl hi.1
  · exact Or.inl hi.2
  · exact Or.inr rfl

/-- `add` is not covered and cannot be: two `add` calls store both.  (That state is reported, see `both_reported`.) -/
theorem excl_add_witness :
    ¬ Inv (run .event St.init [.add .dtend (.val (.date 18262)), .add .duration (.val (.dur 86400))]) := by
  unfold SE.Inv; decide

/-! ## the values the getters return -/

/-- Whenever `.start` and `.end` are defined: with DURATION stored, end = start + DURATION; with only DTSTART
    stored, end = start + 1 day for a date and end = start for a date-time; with DTEND / DUE stored, end is
    that value; and start is the stored DTSTART. -/
theorem end_def (c : Cls) (s : St) (st e : Val) (hc : c ≠ .journal)
    (hs : getStart c s = .ok st) (he : getEnd c s = .ok e) :
    s.dtstart = .one st ∧
    (∀ x, s.duration = .one (.dur x) → e = st.addDur x) ∧
    (s.duration = .absent → s.get (endKey c) = .absent →
        (st.isDate = true → e = st.addDur 86400) ∧ (st.isDate = false → e = st)) ∧
    (∀ v, s.get (endKey c) = .one v → e = v) := by
  obtain ⟨en, du, ⟨h1, _⟩, h2, h3, h4, hend, _⟩ := of_getStart_ok hc hs
  rw [hend] at he
  refine ⟨h1, ?_, ?_, ?_⟩
  · intro x hx
    rw [hx] at h3; cases h3
    rw [endOf_dur] at he; cases he; rfl
  · intro hd hen
    rw [hd] at h3; cases h3
    rw [hen] at h2; cases h2
    simp only [endOf] at he
    constructor
    · intro hdate; rw [if_pos hdate] at he; cases he; rfl
    · intro hdate; rw [if_neg (by simp [hdate])] at he; cases he; rfl
  · intro w hw
    rw [hw] at h2
    cases getProp_one_ok h2
    cases du with
    | some x => simp [forbidden] at h4
    | none => cases he; rfl

/-- "one day later": for a date, adding 86400 seconds is the next day number. -/
theorem date_plus_day (d : Int) : (Val.date d).addDur 86400 = Val.date (d + 1) := by
  simp [Val.addDur]

/-- A defined start always has a defined end and a defined duration: the checks of
    `_get_start_end_duration` leave no pair of values on which `+` or `-` could raise. -/
theorem end_duration_defined (p : Prov) (c : Cls) (s : St) (st : Val) (hc : c ≠ .journal)
    (hs : getStart c s = .ok st) : ∃ e d, getEnd c s = .ok e ∧ getDuration p c s = .ok d := by
  obtain ⟨en, du, ⟨_, hdt⟩, h2, _, h4, hend, hdur⟩ := of_getStart_ok hc hs
  obtain ⟨e, he, d, hd⟩ := endOf_defined p hdt (fun e h => (getProp_ok_some (h ▸ h2)).2) h4
  exact ⟨e, d, by rw [hend, he], by rw [hdur, he]; exact hd⟩

/-- Whenever start and end are defined, duration is defined and is `end - start`. -/
theorem duration_def (p : Prov) (c : Cls) (s : St) (st e : Val) (hc : c ≠ .journal)
    (hs : getStart c s = .ok st) (he : getEnd c s = .ok e) :
    getDuration p c s = Val.sub p e st ∧ ∃ d, getDuration p c s = .ok d := by
  obtain ⟨e', d, he', hd⟩ := end_duration_defined p c s st hc hs
  refine ⟨?_, d, hd⟩
  rw [getDuration_eq hc, he, hs]; rfl

/-- With DURATION stored, the computed duration is DURATION itself: (start + d) - start = d, for dates,
    floating, UTC and zoned date-times under both providers. -/
theorem duration_of_DURATION (p : Prov) (c : Cls) (s : St) (st : Val) (x : Int) (hc : c ≠ .journal)
    (hs : getStart c s = .ok st) (hx : s.duration = .one (.dur x)) : getDuration p c s = .ok x := by
  obtain ⟨en, du, ⟨_, hdt⟩, _, h3, h4, _, hdur⟩ := of_getStart_ok hc hs
  rw [hx] at h3; cases h3
  rw [hdur, endOf_dur]
  exact sub_addDur p x hdt (date_duration_whole h4)

/-- With only DTSTART stored, duration is one day for a date and zero for a date-time. -/
theorem duration_start_only (p : Prov) (c : Cls) (s : St) (st : Val) (hc : c ≠ .journal)
    (hs : getStart c s = .ok st) (hd : s.duration = .absent) (hen : s.get (endKey c) = .absent) :
    getDuration p c s = .ok (if st.isDate then 86400 else 0) := by
  obtain ⟨en, du, ⟨_, hdt⟩, h2, h3, _, _, hdur⟩ := of_getStart_ok hc hs
  rw [hd] at h3; cases h3
  rw [hen] at h2; cases h2
  rw [hdur]
  by_cases hdate : st.isDate = true
  · simp only [endOf, if_pos hdate]
    exact sub_addDur p 86400 hdt (fun _ => rfl)
  · simp only [endOf, if_neg hdate]
    exact sub_self p hdt

/-- The difference of two values of the same kind is exact: day difference for dates, wall-clock difference
    for floating, UTC and (zoneinfo) same-zone date-times, absolute difference otherwise. -/
theorem sub_exact (p : Prov) (a b : Val) (d : Int) (h : Val.sub p a b = .ok d) :
    d = a.wall - b.wall ∨ d = (a.wall - a.offset) - (b.wall - b.offset) := by
  unfold Val.sub at h
  split at h
  · cases h; exact Or.inl (by simp only [Val.wall]; omega)
  · cases h; exact Or.inl rfl
  · split at h <;> cases h
    split
    · exact Or.inl rfl
    · exact Or.inr rfl

/-! ## errors -/

/-- Every error of a getter is InvalidCalendar or IncompleteComponent — for every state whatsoever (lists,
    values of the wrong type in any entry, any combination), every class, both providers.  In particular
    no TypeError from `end - start` or `start + DURATION` and no AttributeError can escape.  The upper-case
    accessors only ever raise InvalidCalendar. -/
theorem errors_documented (p : Prov) (c : Cls) (s : St) :
    (∀ e, getStart c s = .error e → e = .invalidCalendar ∨ e = .incompleteComponent) ∧
    (∀ e, getEnd c s = .error e → e = .invalidCalendar ∨ e = .incompleteComponent) ∧
    (∀ e, getDuration p c s = .error e → e = .invalidCalendar ∨ e = .incompleteComponent) ∧
    (∀ k e, getProp (s.get k) = .error e → e = .invalidCalendar) ∧
    (∀ e, getDur s.duration = .error e → e = .invalidCalendar) := by
  by_cases hc : c = .journal
  · subst hc
    have hj : ∀ e, getStart .journal s = .error e → e = .invalidCalendar ∨ e = .incompleteComponent := by
      intro e h
      rw [getStart_journal] at h
      rcases bind_error h with hp | ⟨o, _, ho⟩
      · exact Or.inl (getProp_err hp)
      · exact Or.inr (startOf_err ho)
    exact ⟨hj, hj, fun e h => (by cases h), fun k e h => getProp_err h, fun e h => getDur_err h⟩
  · have hstart : ∀ e, getStart c s = .error e → e = .invalidCalendar ∨ e = .incompleteComponent :=
      fun e h => bind_sed_err (fun _ => startOf_err) (getStart_eq hc ▸ h)
    have hend : ∀ e, getEnd c s = .error e → e = .invalidCalendar ∨ e = .incompleteComponent :=
      fun e h => bind_sed_err (fun _ => endOf_err) (getEnd_eq hc ▸ h)
    refine ⟨hstart, hend, fun e h => ?_, fun k e h => getProp_err h, fun e h => getDur_err h⟩
    -- `end - start` is only evaluated when both are defined, and then it is defined
    have h' := h
    rw [getDuration_eq hc] at h'
    rcases bind_error h' with he | ⟨ev, he, h'⟩
    · exact hend _ he
    rcases bind_error h' with hs | ⟨v, hs, _⟩
    · exact hstart _ hs
    obtain ⟨d, hd⟩ := (duration_def p c s v ev hc hs he).2
    rw [hd] at h; cases h

/-- Setters raise nothing but TypeError (and then leave the component unchanged, by `next`). -/
theorem setters_documented (c : Cls) (s : St) (a : Acc) (x : Arg) (e : Err)
    (h : step c s (.set a x) = .error e) : e = .typeError := by
  simp only [step] at h
  cases ht : target c a with
  | none => rw [ht] at h; cases h
  | some k =>
    rw [ht] at h
    cases k with
    | duration => exact setDuration_err h
    | _ => rcases pSet_cases c s _ x with h' | h' | ⟨v, h'⟩ <;> cases h'.symm.trans h; rfl

/-- Deleters of the class's own accessors never raise (`pop` has a default). -/
theorem deleters_total (c : Cls) (s : St) (k : Key) (h : descr c k = true) :
    step c s (.del k) = .ok (s.put k .absent) := by
  simp [step, h]

/-- `.start = None` / `.end = None` and the upper-case setters given None delete; never an error. -/
theorem set_none_deletes (c : Cls) (s : St) (a : Acc) (k : Key) (h : target c a = some k) :
    step c s (.set a .none) = .ok (s.put k .absent) := by
  cases k <;> simp [step, h, pSet, setDuration]

/-! ## the forbidden states are always reported -/

/-- Both the end property and DURATION stored (possible through `add` or parsing): `.start`, `.end` and
    `.duration` all raise InvalidCalendar, whatever else the component holds. -/
theorem both_reported (p : Prov) (c : Cls) (s : St) (hc : c ≠ .journal)
    (he : (s.get (endKey c)).present = true) (hd : s.duration.present = true) :
    getStart c s = .error .invalidCalendar ∧ getEnd c s = .error .invalidCalendar ∧
      getDuration p c s = .error .invalidCalendar := by
  refine forbidden_reported p hc fun st en du _ h2 h3 => ?_
  obtain ⟨v, rfl, _⟩ := getProp_present h2 he
  obtain ⟨x, rfl⟩ := getDur_present h3 hd
  rfl

/-- DTSTART a date and the end property a date-time, or the reverse: reported by all three getters. -/
theorem mismatch_reported (p : Prov) (c : Cls) (s : St) (a b : Val) (hc : c ≠ .journal)
    (hs : s.dtstart = .one a) (he : s.get (endKey c) = .one b) (hm : a.isDate ≠ b.isDate) :
    getStart c s = .error .invalidCalendar ∧ getEnd c s = .error .invalidCalendar ∧
      getDuration p c s = .error .invalidCalendar := by
  refine forbidden_reported_stored p hc fun st en du h1 h2 _ => ?_
  cases h1 a hs; cases h2 b he
  have : (a.isDate != b.isDate) = true := by simpa using hm
  simp [forbidden, kindMismatch, this]

/-- One of DTSTART and the end property floating, the other UTC or zoned: reported by all three getters
    (commit c5ccc33; before it `.duration` raised TypeError). -/
theorem tz_mismatch_reported (p : Prov) (c : Cls) (s : St) (a b : Val) (hc : c ≠ .journal)
    (hs : s.dtstart = .one a) (he : s.get (endKey c) = .one b)
    (ha : a.isDatetime = true) (hb : b.isDatetime = true) (hm : a.isFloating ≠ b.isFloating) :
    getStart c s = .error .invalidCalendar ∧ getEnd c s = .error .invalidCalendar ∧
      getDuration p c s = .error .invalidCalendar := by
  refine forbidden_reported_stored p hc fun st en du h1 h2 _ => ?_
  cases h1 a hs; cases h2 b he
  have : (a.isFloating != b.isFloating) = true := by simpa using hm
  simp [forbidden, tzMismatch, ha, hb, this]

/-- DTSTART a date and a DURATION with a time-of-day part: reported by all three getters. -/
theorem date_with_time_duration_reported (p : Prov) (c : Cls) (s : St) (d x : Int) (hc : c ≠ .journal)
    (hs : s.dtstart = .one (.date d)) (hd : s.duration = .one (.dur x)) (hx : x % 86400 ≠ 0) :
    getStart c s = .error .invalidCalendar ∧ getEnd c s = .error .invalidCalendar ∧
      getDuration p c s = .error .invalidCalendar := by
  refine forbidden_reported_stored p hc fun st en du h1 _ h3 => ?_
  cases h1 _ hs; cases h3 x hd
  simp [forbidden, dateWithTime, hx]

/-- A DURATION entry that is not a timedelta (a date, date-time, time or period; commit 6103c08), a list,
    or an entry of the wrong type or a list in DTSTART / the end property: reported by all three getters. -/
theorem invalid_entry_reported (p : Prov) (c : Cls) (s : St) (e : Err) (hc : c ≠ .journal)
    (h : getProp s.dtstart = .error e ∨ getProp (s.get (endKey c)) = .error e ∨ getDur s.duration = .error e) :
    getStart c s = .error .invalidCalendar ∧ getEnd c s = .error .invalidCalendar ∧
      getDuration p c s = .error .invalidCalendar := by
  refine forbidden_reported p hc fun st en du h1 h2 h3 => ?_
  rcases h with h | h | h
  · rw [h1] at h; cases h
  · rw [h2] at h; cases h
  · rw [h3] at h; cases h

/-- No DTSTART: `.start` and `.duration` raise (IncompleteComponent unless the component is also invalid). -/
theorem missing_start_reported (p : Prov) (c : Cls) (s : St) (h : s.dtstart = .absent) (hc : c ≠ .journal) :
    (∃ e, getStart c s = .error e) ∧ (∃ e, getDuration p c s = .error e) ∧
    (∀ st en du, getSED c s = .ok (st, en, du) → getStart c s = .error .incompleteComponent) := by
  have hst : ∃ e, getStart c s = .error e := by
    cases hs : getStart c s with
    | error e => exact ⟨e, rfl⟩
    | ok st =>
      obtain ⟨_, _, ⟨h1, _⟩, _⟩ := of_getStart_ok hc hs
      rw [h] at h1; cases h1
  obtain ⟨e, he⟩ := hst
  refine ⟨⟨e, he⟩, ?_, fun st en du hh => ?_⟩
  · rw [getDuration_eq hc, he]
    cases getEnd c s with
    | error e' => exact ⟨e', rfl⟩
    | ok v => exact ⟨e, rfl⟩
  · have h1 := (getSED_ok_iff.mp hh).1
    rw [h] at h1; cases h1
    rw [getStart_eq hc, hh]; rfl

/-! ## VJOURNAL -/

/-- `Journal.end` is `Journal.start`; the duration is always zero. -/
theorem journal_end_is_start (s : St) : getEnd .journal s = getStart .journal s := rfl

theorem journal_duration (p : Prov) (s : St) : getDuration p .journal s = .ok 0 := rfl

/-- `.start` of a journal: the stored DTSTART if it is a date or date-time, IncompleteComponent if absent,
    InvalidCalendar otherwise. -/
theorem journal_start (s : St) :
    (∀ v, s.dtstart = .one v → v.isDT = true → getStart .journal s = .ok v) ∧
    (s.dtstart = .absent → getStart .journal s = .error .incompleteComponent) ∧
    (∀ v, getStart .journal s = .ok v → s.dtstart = .one v) := by
  refine ⟨?_, ?_, ?_⟩
  · intro v h hv; simp [getStart, h, getProp, hv, bind, Except.bind]
  · intro h; simp [getStart, h, getProp, bind, Except.bind]
  · intro v h
    rw [getStart_journal] at h
    cases hp : getProp s.dtstart with
    | error e => rw [hp] at h; cases h
    | ok o =>
      rw [hp] at h
      cases o with
      | none => cases h
      | some w => cases h; exact (getProp_ok_some hp).1

/-- Writing `.start`, `.end` or `.DTSTART` of a journal is the same operation; the other upper-case names
    are not accessors of VJOURNAL and leave the stored entries alone. -/
theorem journal_setters (s : St) (x : Arg) :
    step .journal s (.set .end x) = step .journal s (.set (.prop .dtstart) x) ∧
    step .journal s (.set .start x) = step .journal s (.set (.prop .dtstart) x) ∧
    (∀ k, k ≠ .dtstart → step .journal s (.set (.prop k) x) = .ok s) := by
  refine ⟨rfl, rfl, ?_⟩
  intro k hk; cases k <;> simp [step, target, descr] at hk ⊢

/-! ## non-vacuity: the hypotheses are satisfiable and the getters do return -/

private def berlin (w : Int) : Val := .zoned 0 w 3600

-- a setter history with every kind of argument
example : run .event St.init
    [.set .start (.val (.date 18262)), .set (.prop .duration) (.val (.dur 172800)), .set .end (.val (.date 18265)),
     .set (.prop .dtstart) .wrong, .del .dtend, .set (.prop .duration) (.val (.dur 86400))]
    = ⟨.one (.date 18262), .absent, .absent, .one (.dur 86400)⟩ := rfl
-- end = start + DURATION, duration = DURATION
example : getEnd .event ⟨.one (.date 18262), .absent, .absent, .one (.dur 172800)⟩ = .ok (.date 18264) := rfl
example : getDuration .pytz .todo ⟨.one (berlin 1000), .absent, .absent, .one (.dur (-60))⟩ = .ok (-60) := rfl
-- only a start
example : getEnd .todo ⟨.one (.date 18262), .absent, .absent, .absent⟩ = .ok (.date 18263) := rfl
example : getEnd .event ⟨.one (.utc 5), .absent, .absent, .absent⟩ = .ok (.utc 5) := rfl
-- stored end; zoneinfo subtracts wall clocks in one zone, pytz instants
example : getDuration .zoneinfo .event ⟨.one (.zoned 0 0 3600), .one (.zoned 0 86400 7200), .absent, .absent⟩ = .ok 86400 := rfl
example : getDuration .pytz .event ⟨.one (.zoned 0 0 3600), .one (.zoned 0 86400 7200), .absent, .absent⟩ = .ok 82800 := rfl
-- the forbidden states exist and are reported
example : getStart .event ⟨.one (.date 1), .one (.date 2), .absent, .one (.dur 86400)⟩ = .error .invalidCalendar := rfl
example : getDuration .zoneinfo .todo ⟨.one (.floating 1), .absent, .one (.utc 2), .absent⟩ = .error .invalidCalendar := rfl
example : getEnd .event ⟨.one (.date 1), .absent, .absent, .one (.dur 3600)⟩ = .error .invalidCalendar := rfl
example : getEnd .event ⟨.one (.date 1), .absent, .absent, .one (.date 3)⟩ = .error .invalidCalendar := rfl
example : getStart .event ⟨.absent, .one (.date 2), .absent, .absent⟩ = .error .incompleteComponent := rfl
example : step .todo St.init (.set (.prop .due) (.val (.dur 5))) = .error .typeError := rfl

/-! ## Regenerated function bodies = hand model

  `ICal.Gen.BodiesSE.Event_end` / `Todo_end` / `is_date` are written by tools/py2lean.py from the current source of
  `Event.end`, `Todo.end` (cal.py) and `tools.is_date` on every run: the tests for None (as `match`), the day added to
  a date start (`start + timedelta(days=1)`), `start + duration`, `raise IncompleteComponent`.  The call
  `self._get_start_end_duration()` (the validity checks) is external: the three values it returned are parameters,
  as they are the arguments of the model's `endOf`.  `is_date` is `isinstance(dt, date) and not isinstance(dt, datetime)`
  on the model's value type; a body written `type(dt) is date` is outside the translated subset (refused). -/

theorem body_is_date (v : SE.Val) : Gen.BodiesSE.is_date v = v.isDate := Bodies.se_is_date_eq v

theorem body_event_end (st en : Option SE.Val) (du : Option Int) :
    Gen.BodiesSE.Event_end (start := st) (end_ := en) (duration := du) = Bodies.liftSE (SE.endOf st en du) := Bodies.Event_end_eq st en du

theorem body_todo_end (st en : Option SE.Val) (du : Option Int) :
    Gen.BodiesSE.Todo_end (start := st) (end_ := en) (duration := du) = Bodies.liftSE (SE.endOf st en du) := Bodies.Todo_end_eq st en du

/-! ### the checks, `.start`, `.end`, `.duration` as regenerated

`Bodies.seSedP` / `seStartP` / `seEndP` / `seDurationP` are the translated `_get_start_end_duration`, `start`, `end` (calling
the translated checks) and `duration` of Event / Todo with the pieces of ICal/Model/SEPieces.lean: the descriptors are the
model's `getProp` / `getDur` of the stored slots, `end - start` is the model's `Val.sub`. -/

-- `getSED` has no VJOURNAL branch: the checks hold without `hc`, the three getters below need it
set_option linter.unusedVariables false in
theorem body_get_start_end_duration (c : SE.Cls) (hc : Bodies.seHasEnd c = true) (s : SE.St) :
    Bodies.seSedP c (Bodies.seLift (SE.getProp s.dtstart)) (Bodies.seLift (SE.getProp (s.get (SE.endKey c)))) (Bodies.seLift (SE.getDur s.duration)) =
      Bodies.seLift (SE.getSED c s) := Bodies.sed_eq c s

theorem body_start (c : SE.Cls) (hc : Bodies.seHasEnd c = true) (s : SE.St) :
    Bodies.seStartP c (Bodies.seLift (SE.getProp s.dtstart)) (Bodies.seLift (SE.getProp (s.get (SE.endKey c)))) (Bodies.seLift (SE.getDur s.duration)) =
      Bodies.seLift (SE.getStart c s) := Bodies.start_eq_se c hc s

theorem body_end_full (c : SE.Cls) (hc : Bodies.seHasEnd c = true) (s : SE.St) :
    Bodies.seEndP c (Bodies.seLift (SE.getProp s.dtstart)) (Bodies.seLift (SE.getProp (s.get (SE.endKey c)))) (Bodies.seLift (SE.getDur s.duration)) =
      Bodies.seLift ((SE.getEnd c s).map some) := Bodies.end_eq_se c hc s

theorem body_duration (p : SE.Prov) (c : SE.Cls) (hc : Bodies.seHasEnd c = true) (s : SE.St) :
    Bodies.seDurationP p c (Bodies.seLift (SE.getProp s.dtstart)) (Bodies.seLift (SE.getProp (s.get (SE.endKey c)))) (Bodies.seLift (SE.getDur s.duration)) =
      Bodies.seLift (SE.getDuration p c s) := Bodies.duration_eq_se p c hc s

/-! ### the setter / deleter closures of `create_single_property`, `_set_duration`, `_del_duration` as regenerated

`Bodies.pSetB` / `pDelB` / `setDurationB` / `delDurationB` are the translated closures `p_set` / `p_del` (their free variables `prop`,
`value_type`, `vProp` are parameters, instantiated for the descriptor at hand) and the translated `_set_duration` / `_del_duration` with the
pieces of ICal/Model/SEDescPieces.lean: `self` is the model's `St`, `self.pop(k[, None])` empties an entry and never raises,
`self[k] = v` stores one value, `self.exclusive` is the tuple regenerated into `Gen.compClasses`.  What this ties down: the instance test comes
first (TypeError before anything is changed), the new value is stored under `prop`, then - only when `prop` is in the class's `exclusive`
tuple - every OTHER name of the tuple is popped; there is no early exit for an unchanged value; `None` deletes; `_set_duration` pops DTEND
*and* DUE whatever the class. -/

theorem body_p_set (c : SE.Cls) (s : SE.St) (k : SE.Key) (x : SE.Arg) :
    Bodies.pSetB c s k x = Bodies.seLift (SE.pSet c s k x) := Bodies.p_set_eq c s k x

theorem body_p_del (s : SE.St) (k : SE.Key) : Bodies.pDelB s k = s.put k .absent := Bodies.p_del_eq s k

theorem body_set_duration (s : SE.St) (x : SE.Arg) :
    Bodies.setDurationB s x = Bodies.seLift (SE.setDuration s x) := Bodies.set_duration_eq s x

theorem body_del_duration (s : SE.St) : Bodies.delDurationB s = s.put .duration .absent := Bodies.del_duration_eq s

/-- One operation of the model, with every setter and deleter replaced by its regenerated body, is the model's `step`: the histories of
    `excl_inv` run the code as it is written now. -/
theorem body_step (c : SE.Cls) (s : SE.St) (op : SE.Op) : Bodies.stepB c s op = Bodies.seLift (SE.step c s op) :=
  Bodies.step_eq c s op

/-- ... and so keeps the invariant. -/
theorem body_step_excl (c : SE.Cls) (s : SE.St) (op : SE.Op) (he : op.isEdit = true) (hi : SE.Inv s) : SE.Inv (Bodies.nextB c s op) := by
  have h : Bodies.nextB c s op = SE.next c s op := by
    unfold Bodies.nextB SE.next
    rw [Bodies.step_eq]
    cases SE.step c s op <;> rfl
  rw [h]
  exact excl_step c s op he hi
example : Bodies.pSetB .event ⟨.absent, .absent, .absent, .one (.dur 5)⟩ .dtend (.val (.date 3)) = .ok ⟨.absent, .one (.date 3), .absent, .absent⟩ := rfl
example : Bodies.setDurationB ⟨.absent, .one (.date 3), .one (.date 4), .absent⟩ (.val (.dur 5)) = .ok ⟨.absent, .absent, .absent, .one (.dur 5)⟩ := rfl

end ICal.C16
