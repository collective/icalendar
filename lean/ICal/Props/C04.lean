/-
  C04 — Parsing is total; a component that ignores exceptions (VEVENT) isolates bad lines.
  `pstep tzok dec st line` is one iteration of the line loop of `Component.from_ical`
  (Model/Parse.lean); `prun` is the loop; `none` = a ValueError escapes. `dec` abstracts the
  typed decoders (`none` = ValueError), so every statement holds for every decoder. `tzok c`
  abstracts "building / caching the time zone object of the VTIMEZONE `c` does not fail"
  (`tzp.cache_timezone_component` in the END branch), so every statement holds for every provider.
  Property theorems only; the definitions `PState.eraseErrs` (every `errors` list of every open
  and finished component set to `[]`), `BadPropertyLine`, `errName`, `decodeStep`,
  `PState.topName`, `PState.topErrs` and the helper lemmas are in ICal/Lemmas/Parse.lean.

  What a Lean model cannot show (exception classes raised inside CPython / library calls,
  recursion limits, CPU time) is the search half of this property (harness).
-/
import ICal.Lemmas.Parse
import ICal.Lemmas.BodiesParse
namespace ICal.C04

/-- On the current source exactly one registered component class sets `ignore_exceptions`:
    "lenient" means VEVENT (read off the generated tables). -/
theorem lenient_only_vevent (n : Str) : lenientName n = true ↔ n = nVEVENT := by
  constructor
  · intro h
    by_cases hm : n ∈ Gen.componentFactory.map Prod.fst
    · have registered : ∀ k ∈ Gen.componentFactory.map Prod.fst, lenientName k = true → k = nVEVENT := by
        decide +kernel
      exact registered n hm h
    · have : Gen.componentFactory.find? (fun kv => kv.1 == n) = none := by
        rw [List.find?_eq_none]
        intro kv hkv hc
        apply hm
        have : kv.1 = n := by simpa using hc
        rw [← this]
        exact List.mem_map_of_mem hkv
      simp [lenientName, classOfName, this] at h
  · intro h; subst h; decide +kernel

/-- The step never reads an `errors` list: stepping and then forgetting the error lists is the
    same as forgetting them first. -/
theorem step_ignores_errors (tzok : Comp → Bool) (dec : Dec) (st : PState) (x : Str) :
    (pstep tzok dec st x).map PState.eraseErrs = (pstep tzok dec st.eraseErrs x).map PState.eraseErrs :=
  eraseErrs_step tzok dec st x

/-- The same for the whole loop. -/
theorem run_ignores_errors (tzok : Comp → Bool) (dec : Dec) (st : PState) (ls : List Str) :
    (prun tzok dec st ls).map PState.eraseErrs = (prun tzok dec st.eraseErrs ls).map PState.eraseErrs :=
  prun_eraseErrs tzok dec st ls

/-- A bad line inside a lenient component: the step succeeds, nothing changes except the error
    lists, and exactly one entry (the upper-cased property name, "" for an unparseable line) is
    appended to the `errors` of the innermost open component. -/
theorem lenient_step (tzok : Comp → Bool) (dec : Dec) (st : PState) (l : Str) (hbad : BadPropertyLine dec st l)
    (hl : lenientName st.topName = true) (hs : st.stopped = false) :
    ∃ st', pstep tzok dec st l = some st' ∧ st'.eraseErrs = st.eraseErrs ∧
      st' = logToTop st (errName l) ∧ st'.topErrs = st.topErrs ++ [errName l] ∧
      st'.stopped = false := by
  refine ⟨logToTop st (errName l), ?_, eraseErrs_logToTop st _, rfl, topErrs_logToTop st _ hbad.2.1, ?_⟩
  · rw [pstep_bad hbad hs, if_pos hl]
  · rcases st with ⟨stack, comps, stopped⟩
    rcases stack with _ | ⟨⟨n, p, s, e⟩, r⟩ <;> exact hs

/-- VEVENT isolation: a bad property line inside a lenient component changes nothing but error
    lists — parsing the remaining lines `post` gives the same stack and the same finished
    components (every property, every subcomponent) as if the line were absent, and fails iff it
    fails without the line. -/
theorem vevent_isolation (tzok : Comp → Bool) (dec : Dec) (st : PState) (l : Str) (post : List Str)
    (hbad : BadPropertyLine dec st l) (hl : lenientName st.topName = true) (hs : st.stopped = false) :
    (prun tzok dec st (l :: post)).map PState.eraseErrs = (prun tzok dec st post).map PState.eraseErrs := by
  obtain ⟨st', h1, h2, _⟩ := lenient_step tzok dec st l hbad hl hs
  rw [prun_of_step_some post h1]
  exact prun_eraseErrs_congr tzok dec post st' st h2

/-- The same from the start of the input: `pre ++ [l] ++ post` against `pre ++ post`. -/
theorem vevent_isolation_parse (tzok : Comp → Bool) (dec : Dec) (pre post : List Str) (l : Str) (st : PState)
    (hpre : prun tzok dec PState.init pre = some st)
    (hbad : BadPropertyLine dec st l) (hl : lenientName st.topName = true) (hs : st.stopped = false) :
    (prun tzok dec PState.init (pre ++ l :: post)).map PState.eraseErrs =
      (prun tzok dec PState.init (pre ++ post)).map PState.eraseErrs := by
  rw [prun_append, prun_append, hpre]
  exact vevent_isolation tzok dec st l post hbad hl hs

/-- The trees returned are equal: `from_ical` of the input with the bad line and of the input
    without it give the same components once the error lists are dropped (`PComp.toComps`
    forgets them), for both values of `multiple`. -/
theorem vevent_isolation_trees (tzok : Comp → Bool) (dec : Dec) (multiple : Bool) (pre post : List Str) (l : Str) (st : PState)
    (hpre : prun tzok dec PState.init pre = some st)
    (hbad : BadPropertyLine dec st l) (hl : lenientName st.topName = true) (hs : st.stopped = false) :
    (parseLines tzok dec multiple (pre ++ l :: post)).map Prod.fst =
      (parseLines tzok dec multiple (pre ++ post)).map Prod.fst := by
  have h := vevent_isolation_parse tzok dec pre post l st hpre hbad hl hs
  unfold parseLines parseLinesP
  rcases map_eq_map_cases h with ⟨h1, h2⟩ | ⟨a, b, h1, h2, h⟩
  · rw [h1, h2]
  · rw [h1, h2]
    have hc : PComp.eraseErrsL a.comps = PComp.eraseErrsL b.comps := congrArg PState.comps h
    have hlen : a.comps.length = b.comps.length := by
      have := congrArg List.length hc
      simpa [eraseErrsL_eq_map] using this
    have ht : PComp.toComps a.comps = PComp.toComps b.comps := by
      rw [← toComps_eraseErrsL a.comps, ← toComps_eraseErrsL b.comps, hc]
    simp only [hlen]
    cases multiple
    · by_cases h1 : b.comps.length = 1 <;> simp [h1, ht]
    · simp [ht]

/-- Outside a lenient component the same line makes `from_ical` raise. -/
theorem strict_fails (tzok : Comp → Bool) (dec : Dec) (st : PState) (l : Str) (post : List Str)
    (hbad : BadPropertyLine dec st l) (hl : lenientName st.topName = false) (hs : st.stopped = false) :
    prun tzok dec st (l :: post) = none := by
  apply prun_of_step_none
  rw [pstep_bad hbad hs, hl]
  rfl

/-- ... whatever precedes and follows it. -/
theorem strict_fails_parse (tzok : Comp → Bool) (dec : Dec) (multiple : Bool) (pre post : List Str) (l : Str) (st : PState)
    (hpre : prun tzok dec PState.init pre = some st)
    (hbad : BadPropertyLine dec st l) (hl : lenientName st.topName = false) (hs : st.stopped = false) :
    parseLines tzok dec multiple (pre ++ l :: post) = none := by
  unfold parseLines parseLinesP
  rw [prun_append, hpre]
  simp [strict_fails tzok dec st l post hbad hl hs]

/-- A property line outside every component raises, unless it is X-COMMENT (which ends the loop). -/
theorem orphan_property_fails (tzok : Comp → Bool) (dec : Dec) (st : PState) (l name : Str) (params : Params) (vals : Str)
    (post : List Str) (hs : st.stopped = false) (hst : st.stack = []) (hl : l ≠ [])
    (hp : parts l = some (name, params, vals))
    (hb : upper name ≠ nBEGIN) (he : upper name ≠ nEND) (hx : upper name ≠ nXCOMMENT) :
    prun tzok dec st (l :: post) = none := by
  apply prun_of_step_none
  rw [pstep_orphan st hs hl hp hb he hst, if_neg]
  simpa using hx

/-- An unparseable line outside every component raises. -/
theorem orphan_garbage_fails (tzok : Comp → Bool) (dec : Dec) (st : PState) (l : Str) (post : List Str)
    (hs : st.stopped = false) (hst : st.stack = []) (hl : l ≠ []) (hp : parts l = none) :
    prun tzok dec st (l :: post) = none := by
  apply prun_of_step_none
  rw [pstep_noparts tzok dec st l hs hl hp, hst]

/-- `END` with no open component raises. -/
theorem end_without_begin_fails (tzok : Comp → Bool) (dec : Dec) (st : PState) (l name : Str) (params : Params) (vals : Str)
    (post : List Str) (hs : st.stopped = false) (hst : st.stack = []) (hl : l ≠ [])
    (hp : parts l = some (name, params, vals)) (he : upper name = nEND) :
    prun tzok dec st (l :: post) = none := by
  apply prun_of_step_none
  rw [pstep_end st hs hl hp he, hst]

/-- After a top-level X-COMMENT (`break`) and for blank lines nothing happens. -/
theorem skipped_lines (tzok : Comp → Bool) (dec : Dec) (st : PState) (l : Str) (h : st.stopped = true ∨ l = []) :
    pstep tzok dec st l = some st := by
  apply pstep_skip
  rcases h with h | h <;> simp [h]

/-- `multiple=False` returns exactly one component or raises. -/
theorem single_requires_one (tzok : Comp → Bool) (dec : Dec) (ls : List Str) (cs : List PComp)
    (h : parseLinesP tzok dec false ls = some cs) : cs.length = 1 := by
  obtain ⟨c, rfl⟩ := parseLinesP_single h
  rfl

/-- Error inventory of the model: the only failure of the loop is `none` (= ValueError), and a
    failing run has a first failing line — one of the cases above. -/
theorem failure_has_first_line (tzok : Comp → Bool) (dec : Dec) (ls : List Str) (st : PState) (h : prun tzok dec st ls = none) :
    ∃ pre l post st', ls = pre ++ l :: post ∧ prun tzok dec st pre = some st' ∧ pstep tzok dec st' l = none := by
  induction ls generalizing st with
  | nil => simp [prun] at h
  | cons l ls ih =>
    cases hp : pstep tzok dec st l with
    | none => exact ⟨[], l, ls, st, rfl, rfl, hp⟩
    | some st1 =>
      rw [prun_of_step_some ls hp] at h
      obtain ⟨pre, l', post, st', e, h1, h2⟩ := ih st1 h
      refine ⟨l :: pre, l', post, st', by rw [e]; rfl, ?_, h2⟩
      rw [prun_of_step_some pre hp, h1]

/-- `END:VTIMEZONE` closing a VTIMEZONE that has a TZID whose time zone object cannot be built
    (`tzok` false: `cache_timezone_component` raises, re-raised as ValueError "Invalid VTIMEZONE"). -/
theorem bad_vtimezone_fails (tzok : Comp → Bool) (dec : Dec) (st : PState) (l name : Str) (params : Params)
    (vals : Str) (c : PComp) (rest : List PComp) (post : List Str)
    (hs : st.stopped = false) (hst : st.stack = c :: rest) (hl : l ≠ [])
    (hp : parts l = some (name, params, vals)) (he : upper name = nEND)
    (htz : tzFails tzok (upper vals) c = true) :
    prun tzok dec st (l :: post) = none := by
  apply prun_of_step_none
  rw [pstep_end st hs hl hp he, hst]
  simp [htz]

/-- What `tzFails` says: the END value is VTIMEZONE, the closed component is a VTIMEZONE with a
    TZID entry, and `tzok` is false of it. -/
theorem tzFails_iff (tzok : Comp → Bool) (en n : Str) (props : List Entry) (subs : List PComp) (errs : List Str) :
    tzFails tzok en (.mk n props subs errs) = true ↔
      en = nVTIMEZONE ∧ n = nVTIMEZONE ∧ (∃ e ∈ props, e.name = nTZID) ∧
      tzok (.mk n props (PComp.toComps subs)) = false := by
  simp [tzFails, PComp.toComp, nVTIMEZONE, nTZID, and_assoc]

/-- With `tzok` constantly true (every time zone can be built) an END line never fails on an open
    component. -/
theorem tzFails_of_ok (en : Str) (c : PComp) : tzFails (fun _ => true) en c = false := by
  obtain ⟨n, p, s, e⟩ := c
  simp [tzFails]

/-- A failing step is one of: unparseable line / failed decoding in a strict component
    (`BadPropertyLine`); a line outside every component that is not BEGIN or X-COMMENT; or the END
    of a VTIMEZONE with TZID whose time zone cannot be built. -/
theorem step_failure_cases (tzok : Comp → Bool) (dec : Dec) (st : PState) (l : Str) (h : pstep tzok dec st l = none) :
    (BadPropertyLine dec st l ∧ lenientName st.topName = false) ∨
    (st.stack = [] ∧ l ≠ [] ∧ ∀ name params vals, parts l = some (name, params, vals) →
        upper name ≠ nBEGIN ∧ upper name ≠ nXCOMMENT) ∨
    (∃ c rest name params vals, st.stack = c :: rest ∧ parts l = some (name, params, vals) ∧
        upper name = nEND ∧ tzFails tzok (upper vals) c = true) := by
  by_cases hskip : (st.stopped || l.isEmpty) = true
  · rw [pstep_skip st hskip] at h; simp at h
  · obtain ⟨hs, hl⟩ := of_not_skipped hskip
    cases hst : st.stack with
    | nil =>
      right; left
      refine ⟨rfl, hl, ?_⟩
      intro name params vals hp
      constructor
      · intro hb
        rw [pstep_begin st hs hl hp hb] at h; simp at h
      · intro hx
        have hb : upper name ≠ nBEGIN := by rw [hx]; decide
        have he : upper name ≠ nEND := by rw [hx]; decide
        rw [pstep_orphan st hs hl hp hb he hst, if_pos (by simp [hx])] at h
        simp at h
    | cons c r =>
      have hne : st.stack ≠ [] := by rw [hst]; exact List.cons_ne_nil c r
      have bad : BadPropertyLine dec st l → BadPropertyLine dec st l ∧ lenientName st.topName = false := by
        intro hbad
        rw [pstep_bad hbad hs] at h
        refine ⟨hbad, ?_⟩
        cases hlen : lenientName st.topName
        · rfl
        · rw [hlen, if_pos rfl] at h
          cases h
      cases hp : parts l with
      | none => exact .inl (bad ⟨hl, hne, .inl hp⟩)
      | some t =>
        obtain ⟨name, params, vals⟩ := t
        by_cases hb : upper name = nBEGIN
        · rw [pstep_begin st hs hl hp hb] at h
          cases h
        · by_cases he : upper name = nEND
          · right; right
            rw [pstep_end st hs hl hp he, hst] at h
            refine ⟨c, r, name, params, vals, rfl, rfl, he, ?_⟩
            cases htz : tzFails tzok (upper vals) c
            · simp [htz] at h
            · rfl
          · cases hd : decodeStep dec l name params vals with
            | none => exact .inl (bad ⟨hl, hne, .inr ⟨name, params, vals, hp, hb, he, hd⟩⟩)
            | some texts =>
              obtain ⟨n, p, s, e⟩ := c
              rw [pstep_prop st hs hl hp hb he hst, hd] at h
              cases h

/-! Non-vacuity: inside `BEGIN:VEVENT` the line `DTSTART:x` with a decoder that refuses
    everything is a bad property line in a lenient component; inside `BEGIN:VTODO` it is a bad
    line in a strict one; `:x` is refused by `parts()`. -/

private def decNone : Dec := fun _ _ _ => none
private def inEvent : PState := ⟨[.mk nVEVENT [] [] []], [], false⟩
private def inTodo : PState := ⟨[.mk ['V','T','O','D','O'] [] [] []], [], false⟩
private def lBad : Str := ['D','T','S','T','A','R','T',':','x']

example : prun (fun _ => true) decNone PState.init [['B','E','G','I','N',':','V','E','V','E','N','T']] = some inEvent := by rfl
example : BadPropertyLine decNone inEvent lBad :=
  ⟨by decide +kernel, by decide +kernel, Or.inr ⟨['D','T','S','T','A','R','T'], [], ['x'], by decide +kernel, by decide +kernel, by decide +kernel, by decide +kernel⟩⟩
example : BadPropertyLine decNone inEvent [':','x'] := ⟨by decide +kernel, by decide +kernel, Or.inl (by decide +kernel)⟩
example : lenientName inEvent.topName = true ∧ inEvent.stopped = false := by decide +kernel
example : lenientName inTodo.topName = false ∧ inTodo.stopped = false := by decide +kernel
example : pstep (fun _ => true) decNone inEvent lBad = some ⟨[.mk nVEVENT [] [] [['D','T','S','T','A','R','T']]], [], false⟩ := by rfl
example : pstep (fun _ => true) decNone inTodo lBad = none := by decide +kernel

/-- the third failure class is inhabited: `END:VTIMEZONE` on a VTIMEZONE with TZID, `tzok` false -/
example : prun (fun _ => false) decNone
    ⟨[.mk nVTIMEZONE [⟨nTZID, false, [⟨['v','T','e','x','t'], ['X'], []⟩]⟩] [] []], [], false⟩
    [['E','N','D',':','V','T','I','M','E','Z','O','N','E']] = none := by decide +kernel

/-! ## the regenerated `Component.from_ical` (ICal/Gen/BodiesParse.lean, rewritten from cal.py by tools/py2lean.py on every run) -/

/-- one iteration of the translated loop is `pstep`, of which the theorems above speak -/
theorem body_from_ical_step (tzok : Comp → Bool) (dec : Dec) (st : PState) (hst : st.stopped = false) (line : Str) (rest : List Str) :
    Bodies.loopP tzok dec st.stack.reverse st.comps (line :: rest) = Bodies.liftStep tzok dec rest (pstep tzok dec st line) :=
  Bodies.loop_cons tzok dec st hst line rest

/-- the translated loop is `prun` -/
theorem body_from_ical_loop (tzok : Comp → Bool) (dec : Dec) (lines : List Str) (st : PState) (hst : st.stopped = false) :
    Bodies.loopP tzok dec st.stack.reverse st.comps lines =
      match prun tzok dec st lines with
      | none => .error .valueError
      | some st' => .ok (st'.stack.reverse, st'.comps) :=
  Bodies.loop_prun tzok dec lines st hst

/-- the only exception that leaves the translated `from_ical` is ValueError (the IndexError of `comps[0]`,
    of `stack.pop()` and of `stack[-1]` cannot happen) -/
theorem body_raises_only_valueError (tzok : Comp → Bool) (dec : Dec) (st : Str) (multiple : Bool) (e : PyRT.Exc)
    (h : Bodies.fromIcalP tzok dec st multiple = .error e) : e = .valueError :=
  Bodies.fromIcal_raises_only_valueError tzok dec st multiple e h

/-- the translated function raises exactly when the model's parse fails -/
theorem body_fails_iff (tzok : Comp → Bool) (dec : Dec) (st : Str) (multiple : Bool) :
    Bodies.fromIcalTrees tzok dec multiple st = none ↔ parseText tzok dec multiple st = none := by
  rw [Bodies.fromIcalTrees_parseText]

end ICal.C04
