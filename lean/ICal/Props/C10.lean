/-
  C10 — serialisation is deterministic, pure and insertion-order independent.
  Property theorems only; the model is ICal/Model/Ser.lean (property_items, content_line,
  content_lines, to_ical), ICal/Model/Params.lean (Parameters.to_ical) and ICal/Model/TzUse.lean
  (add_missing_timezones); helper lemmas are in ICal/Lemmas/Ser.lean, those on the sets of time
  zone ids (`toSet`, `missingTzids`) in ICal/Lemmas/TzUse.lean.

  "Serialising twice gives the same bytes and leaves the tree unchanged": in the model `toIcal`
  is a function of the tree that returns text only, so this clause holds by construction; that
  the implementation is such a function (no hidden state, no write to the tree) is what the
  differential run and the oracle of harness/props/C10.py check.
-/
import ICal.Lemmas.Ser
import ICal.Lemmas.BodiesSer
import ICal.Lemmas.BodiesSerLines
namespace ICal.C10

/-! ### with sorting on, insertion order of distinct names is immaterial -/

/-- `Parameters.to_ical(sorted=True)` does not depend on the order in which the (distinct)
    parameter names were inserted. -/
theorem params_perm (p q : Params) (hp : (p.map Prod.fst).Nodup) (h : p.Perm q) :
    paramsToIcal p true = paramsToIcal q true := by
  simp only [paramsToIcal, if_true, sortByKey_perm_eq p q hp h]

/-- `property_items(sorted=True)` does not depend on the order in which the distinct property
    names of the component were inserted. -/
theorem items_perm_props (n : Str) (props props' : List Entry) (subs : List Comp)
    (hn : (props.map (·.name)).Nodup) (h : props.Perm props') :
    items true (.mk n props subs) = items true (.mk n props' subs) := by
  rw [items_mk, items_mk, propNames_perm n props props' h,
    flatMap_congr (fun k _ => entryItems_perm props props' hn h k)]

/-- ... and neither do the bytes of `to_ical(sorted=True)`. -/
theorem toIcal_perm_props (n : Str) (props props' : List Entry) (subs : List Comp)
    (hn : (props.map (·.name)).Nodup) (h : props.Perm props') :
    toIcal true (.mk n props subs) = toIcal true (.mk n props' subs) := by
  simp only [toIcal, contentLines, items_perm_props n props props' subs hn h]

/-- The whole-tree statement.  `InsEq t t'`: at every level `t'` has the same component name,
    the same property mapping up to a rearrangement of its (distinct) names, for every name the
    same values in the same order, every value with the same text and the same parameters up
    to a rearrangement, and the same subcomponents in the same order (recursively).
    `dictInv t`: the dictionary invariants (distinct property names per component, distinct
    parameter names per value).  Then `to_ical(sorted=True)` gives the same bytes (or the same
    error). -/
theorem toIcal_insertion_order_free (t t' : Comp) (h : InsEq t t') (hw : dictInv t = true) :
    toIcal true t = toIcal true t' := by
  simp only [toIcal, contentLines]
  rw [mapM_eq_of_map_eq _ _ _ (items_insEq t t' h hw)]

/-! ### what keeps its insertion order -/

/-- With sorting on: the names come in canonical order (`canonsort_keys`, characterised by
    `ICal.C17.canonsort_spec`), and for each name the repeated values keep their order. -/
theorem items_sorted_order (n : Str) (props : List Entry) (subs : List Comp)
    (hn : (props.map (·.name)).Nodup) :
    items true (.mk n props subs) =
      beginItem n :: ((CDict.canonsort (props.map (·.name)) (canonicalOrderOf n)).flatMap (entryItems props)
        ++ itemsList true subs ++ [endItem n])
    ∧ ∀ e ∈ props, entryItems props e.name = e.vals.map (fun v => ⟨e.name, v.text, v.params⟩) :=
  ⟨by rw [items_mk]; simp only [propNames, if_true], fun e he => entryItems_of_mem props hn e he⟩

/-- With sorting off: properties appear exactly in insertion order, the repeated values of one
    name in their order, then the subcomponents in their order. -/
theorem items_unsorted_order (n : Str) (props : List Entry) (subs : List Comp)
    (hn : (props.map (·.name)).Nodup) :
    items false (.mk n props subs) =
      beginItem n :: (props.flatMap (fun e => e.vals.map (fun v => ⟨e.name, v.text, v.params⟩))
        ++ itemsList false subs ++ [endItem n]) := by
  rw [items_mk]
  have : propNames false n props = props.map (·.name) := by simp [propNames]
  rw [this, propItems_unsorted props hn]

/-- Subcomponents are serialised in insertion order after the properties, for both values of
    `sorted`; their blocks are concatenated. -/
theorem items_subs_order (b : Bool) (n : Str) (props : List Entry) (subs : List Comp) :
    items b (.mk n props subs) =
      beginItem n :: ((propNames b n props).flatMap (entryItems props) ++ itemsList b subs ++ [endItem n])
    ∧ itemsList b subs = subs.flatMap (items b)
    ∧ ∀ cs ds, itemsList b (cs ++ ds) = itemsList b cs ++ itemsList b ds :=
  ⟨items_mk b n props subs, itemsList_eq_flatMap b subs, itemsList_append b⟩

/-! ### BEGIN/END nesting -/

/-- The output is a balanced, properly nested sequence of BEGIN/END blocks: scanning the items
    with a stack (push the text of a BEGIN, an END must find its own text on top and pops it)
    never fails and ends with the empty stack.  `WFNames t`: no property is stored under the
    name BEGIN or END. -/
theorem items_balanced (b : Bool) (t : Comp) (hw : WFNames t) : balancedItems [] (items b t) = true := by
  have := balanced_items b t hw [] []
  rw [List.append_nil] at this
  rw [this]; rfl

/-- `WFNames` cannot be dropped: a property stored under the name END closes the block early
    (`property_items` yields it like any other property). -/
theorem items_unbalanced_witness :
    balancedItems [] (items false (.mk ['X'] [⟨['E','N','D'], false, [⟨['v'], ['Y'], []⟩]⟩] [])) = false := by
  decide +kernel

/-! ### add_missing_timezones -/

/-- `get_missing_tzids()` returns a `set`; `addMissingFrom knows enum` is `add_missing_timezones`
    with the enumeration `enum` of that set made explicit (the code iterates over
    `sorted(enum)`).  Two enumerations of the same set give the same tree, and every enumeration
    of the set of missing ids gives the result of the model `addMissing` (which the differential
    run compares with the implementation). -/
theorem addMissing_enumeration_free (knows : Str → Bool) (t : Comp) (enum enum' : List Str) :
    (enum.Perm enum' → addMissingFrom knows enum t = addMissingFrom knows enum' t)
    ∧ (enum.Perm (missingTzids t) → addMissingFrom knows enum t = addMissing knows t) :=
  ⟨fun h => addMissingFrom_perm knows enum enum' h t,
   fun h => (addMissingFrom_perm knows enum _ h t).trans (addMissingFrom_missing knows t)⟩

/-- The appended VTIMEZONEs are in code-point order of their ids, without repetition, and the
    set of used ids (hence the result) depends only on which ids occur, not on how often or in
    which order the scan meets them. -/
theorem addMissing_sorted_set (knows : Str → Bool) (n : Str) (p : List Entry) (subs : List Comp) :
    addMissing knows (.mk n p subs) = .mk n p (subs ++ ((missingTzids (.mk n p subs)).filter knows).map genTz)
    ∧ ((missingTzids (.mk n p subs)).filter knows).Pairwise (fun a b => strLe a b = true)
    ∧ ((missingTzids (.mk n p subs)).filter knows).Nodup
    ∧ ∀ l l' : List Str, (∀ k, k ∈ l ↔ k ∈ l') → toSet l = toSet l' :=
  ⟨rfl, List.Pairwise.sublist List.filter_sublist (missingTzids_sorted _),
   (missingTzids_nodup _).sublist List.filter_sublist, toSet_ext⟩

/-! ### Non-vacuity -/

private def s (x : String) : Str := x.toList
private def v (t : String) (p : Params := []) : Val := ⟨s "vText", s t, p⟩
private def alarm : Comp := .mk (s "VALARM") [⟨s "ACTION", false, [v "DISPLAY"]⟩] []
private def eSummary : Entry :=
  ⟨s "SUMMARY", false, [v "hi" [(s "LANGUAGE", .one (s "en")), (s "ALTREP", .one (s "x"))]]⟩
private def eSummary' : Entry :=
  ⟨s "SUMMARY", false, [v "hi" [(s "ALTREP", .one (s "x")), (s "LANGUAGE", .one (s "en"))]]⟩
private def eStart : Entry := ⟨s "DTSTART", false, [v "20200101"]⟩
private def eAtt : Entry := ⟨s "ATTENDEE", true, [v "b", v "a"]⟩
/-- two distinct single properties, a repeated property, a subcomponent -/
private def t1 : Comp := .mk (s "VEVENT") [eSummary, eStart, eAtt] [alarm]
/-- the same event, built in another order of properties and of parameters -/
private def t2 : Comp := .mk (s "VEVENT") [eAtt, eSummary', eStart] [alarm]

-- hypotheses of `items_perm_props` / `items_unsorted_order` hold of `t1`
private theorem names_nodup : ([eSummary, eStart, eAtt].map (·.name)).Nodup := by decide +kernel
private theorem props_perm : [eSummary, eStart, eAtt].Perm [eAtt, eSummary, eStart] :=
  List.perm_append_comm (l₁ := [eSummary, eStart]) (l₂ := [eAtt])
example : ([eSummary, eStart, eAtt].map (·.name)).Nodup := names_nodup
example : [eSummary, eStart, eAtt].Perm [eAtt, eSummary, eStart] := props_perm
example : items true t1 = items true (.mk (s "VEVENT") [eAtt, eSummary, eStart] [alarm]) :=
  items_perm_props _ _ _ _ names_nodup props_perm
-- hypotheses of the whole-tree theorem hold of `t1`, `t2` (parameters rearranged as well)
private theorem dictInv_t1 : dictInv t1 = true := by decide +kernel
example : dictInv t1 = true := dictInv_t1
private theorem insEq_t1_t2 : InsEq t1 t2 := by
  rw [t1, t2, InsEq]
  have hs : EntryEq eSummary eSummary' := EntryEq.of_vals ⟨ValEq.of_perm (.swap _ _ _), trivial⟩
  exact ⟨rfl, ⟨_, props_perm, EntryEq.refl _, hs, EntryEq.refl _, trivial⟩, InsEqL.refl _⟩
example : toIcal true t1 = toIcal true t2 := toIcal_insertion_order_free t1 t2 insEq_t1_t2 dictInv_t1
-- with sorting off the order of insertion shows (so the `sorted` hypothesis matters)
example : items false t1 ≠ items false t2 := by decide +kernel
example : (items false t1).map (·.name) =
    [s "BEGIN", s "SUMMARY", s "DTSTART", s "ATTENDEE", s "ATTENDEE", s "BEGIN", s "ACTION", s "END", s "END"] := by
  decide +kernel
-- repeated values keep their order: swapping them is visible
example : items false (.mk (s "VEVENT") [⟨s "ATTENDEE", true, [v "b", v "a"]⟩] []) ≠
    items false (.mk (s "VEVENT") [⟨s "ATTENDEE", true, [v "a", v "b"]⟩] []) := by decide +kernel
-- parameters: two insertion orders, one text
example : paramsToIcal [(s "LANGUAGE", .one (s "en")), (s "ALTREP", .one (s "x"))] true
    = paramsToIcal [(s "ALTREP", .one (s "x")), (s "LANGUAGE", .one (s "en"))] true := by decide +kernel
example : paramsToIcal [(s "LANGUAGE", .one (s "en")), (s "ALTREP", .one (s "x"))] false
    ≠ paramsToIcal [(s "ALTREP", .one (s "x")), (s "LANGUAGE", .one (s "en"))] false := by decide +kernel
private theorem wfNames_t1 : WFNames t1 := by unfold WFNames; decide +kernel
example : WFNames t1 := wfNames_t1
example : balancedItems [] (items false t1) = true := items_balanced false t1 wfNames_t1
-- time zones: two enumerations of a two-element set
example : addMissingFrom (fun _ => true) [s "Europe/Berlin", s "America/New_York"] (.mk (s "VCALENDAR") [] [])
    = addMissingFrom (fun _ => true) [s "America/New_York", s "Europe/Berlin"] (.mk (s "VCALENDAR") [] []) :=
  (addMissing_enumeration_free _ _ _ _).1 (List.Perm.swap _ _ _)

/-! ## Regenerated function body = hand model

  `ICal.Gen.BodiesSer.Component_property_items` is written by tools/py2lean.py from the current source of
  `Component.property_items` on every run: `self` is the tree `Comp` (definition by pattern matching), the
  loops over the property names, over a list of values and over `self.subcomponents` are separate
  definitions in one `mutual` block, and the recursive call `subcomponent.property_items(sorted=sorted)` has
  its arguments BOUND BY THE SIGNATURE as Python binds them (`recursive` takes its default `True`, `sorted`
  the keyword) - a call `property_items(sorted)` would bind `recursive`.  External pieces are parameters:
  `vText(self.name).to_ical()`, `self.sorted_keys()`, `self.keys()`, `self[name]` (ICal/Lemmas/BodiesSer.lean
  instantiates them with what the hand model says: `escapeChar`, `canonsort` of the keys by the class's
  canonical order, the stored names, the entry of that name or KeyError).  The theorem: the translated
  method does not raise and what the serialiser observes of its result (`Bodies.ivItem`) is the model's
  `items`, which every theorem above is about. -/

theorem body_property_items (sorted : Bool) (c : Comp) :
    ∃ l, Gen.BodiesSer.Component_property_items (name_to_ical := Bodies.nameToIcalP) (sorted_keys := Bodies.sortedKeysP) (keys := Bodies.keysP) (getitem := Bodies.getitemP)
        c true sorted = .ok l ∧ l.map Bodies.ivItem = items sorted c :=
  Bodies.property_items_items sorted c

/-- the regenerated `Component.content_line(name, value, sorted)` is the model's line of the item the serialiser sees -/
theorem body_content_line (c : Comp) (n : Str) (v : PyRT.PyIV) (sorted : Bool) :
    Bodies.contentLineP c n v sorted = Bodies.liftL (itemLine sorted (Bodies.ivItem (n, v))) :=
  Bodies.content_line_eq c n v sorted

/-- the regenerated `Component.content_lines(sorted)` is the model's `contentLines` followed by the empty line -/
theorem body_content_lines (c : Comp) (sorted : Bool) :
    Bodies.contentLinesP c sorted = Bodies.liftL ((contentLines sorted c).map (fun ls => ls ++ [[]])) :=
  Bodies.content_lines_eq c sorted

/-- the regenerated `Component.to_ical(sorted)` is the model's `toIcal`, which every theorem above is about -/
theorem body_to_ical (c : Comp) (sorted : Bool) : Bodies.toIcalP c sorted = Bodies.liftL (toIcal sorted c) :=
  Bodies.to_ical_eq c sorted

end ICal.C10
