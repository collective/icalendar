/-
  C03 — value codecs are inverse and emit RFC 5545 grammar; every grammar-valid text decodes to the
  value the RFC assigns to it; `vDDDTypes.from_ical` classifies each text as the right type.

  Property theorems only (helper lemmas: ICal/Lemmas/Codec.lean).  The model (ICal/Model/Codec.lean)
  mirrors `to_ical`/`from_ical` of vDate vDatetime vTime vDuration vPeriod vUTCOffset vInt vBoolean
  vWeekday vFrequency vMonth vDDDTypes as written; `rfcX : Str → Option Value` is the RFC 5545
  section 3.3 recogniser of the type together with the value the RFC assigns (`xText` = `isSome`).
  Every statement is unbounded in the value: all valid dates 0001-9999, all 86 400 seconds of the
  day, all `Int` durations, all offsets below 24 h, all integers, all texts of each grammar.

  Shape of the results per type:
    x_grammar          rfcX (xTo v) = some v      the encoded text is in the grammar AND is the RFC
                                                  text of exactly that value
    decode_grammar_x   rfcX t = some v → xFrom t = ok v     for every text of the grammar
    x_rt               xFrom (xTo v) = ok v

  Recorded defect (DESIGN D08, KNOWN_FINDINGS class time-utc-flag-lost): TIME `HHMMSSZ` decodes to a
  naive time and `vTime.to_ical` drops the UTC designator.  The full statements are the `def`s
  `time_rt_full`, `time_grammar_full`, `decode_grammar_time_full`; the `_partial` theorems state
  exactly what holds (hour, minute and second are right, the flag is always `false`), and the
  `_witness` theorems refute the full statements at "120000Z".

  Outside the proof (assumed library laws, DESIGN section 4, exercised by the oracle of
  harness/props/C03.py only): FLOAT and GEO wrap `float()` / `float.__repr__` (law
  `float(repr(x)) == x`; the FLOAT grammar clause is FALSE on the code for |x| >= 1e16, |x| < 1e-4,
  inf, nan — KNOWN_FINDINGS class float-exponent-or-nonfinite, witness 1e16 -> "1e+16"); BINARY wraps
  `binascii.b2a_base64` / `base64.b64decode` (law `b64decode(b2a_base64(b)[:-1]) == b`); URI and
  CAL-ADDRESS are `str` subclasses whose `to_ical`/`from_ical` are the identity on text.
  Value-domain restrictions of the recognisers (year 0001-9999, second 00-59) are stated in the model.
-/
import ICal.Lemmas.Codec
import ICal.Lemmas.Bodies
import ICal.Lemmas.BodiesDec
import ICal.Lemmas.BodiesDDD
import ICal.Lemmas.BodiesMonth
namespace ICal.C03
open ICal.Codec

/-! ## DATE -/

/-- The encoded date is the RFC 5545 DATE text of exactly that date (every valid date 0001-9999). -/
theorem date_grammar (v : PDate) (h : v.valid = true) : rfcDate (vDateTo v) = some v := by
  obtain ⟨y, m, d⟩ := v
  exact rfcDate_vDateTo y m d h

theorem date_grammar_text (v : PDate) (h : v.valid = true) : dateText (vDateTo v) = true := by
  simp [dateText, date_grammar v h]

/-- Every grammar-valid DATE text decodes to the date the RFC assigns to it. -/
theorem decode_grammar_date (t : Str) (v : PDate) (h : rfcDate t = some v) : vDateFrom t = .ok v :=
  rfcDate_vDateFrom h

/-- `vDate.from_ical(vDate(d).to_ical()) == d` for every `datetime.date`. -/
theorem date_rt (v : PDate) (h : v.valid = true) : vDateFrom (vDateTo v) = .ok v :=
  decode_grammar_date _ _ (date_grammar v h)

/-! ## DATE-TIME (floating and UTC forms; `utc` is the `Z` suffix) -/

theorem datetime_grammar (v : PDateTime) (h : v.valid = true) : rfcDateTime (vDatetimeTo v) = some v :=
  rfcDateTime_vDatetimeTo v h

theorem decode_grammar_datetime (t : Str) (v : PDateTime) (h : rfcDateTime t = some v) :
    vDatetimeFrom t = .ok v :=
  rfcDateTime_vDatetimeFrom h

theorem datetime_rt (v : PDateTime) (h : v.valid = true) : vDatetimeFrom (vDatetimeTo v) = .ok v :=
  decode_grammar_datetime _ _ (datetime_grammar v h)

/-- form 1, floating: `YYYYMMDDTHHMMSS` -/
theorem datetime_rt_floating (d : PDate) (h mi s : Nat) (hd : d.valid = true) (ht : validTime h mi s = true) :
    vDatetimeFrom (vDatetimeTo ⟨d, h, mi, s, false⟩) = .ok ⟨d, h, mi, s, false⟩ :=
  datetime_rt _ (by simp [PDateTime.valid, hd, ht])

/-- form 2, UTC: `YYYYMMDDTHHMMSSZ` comes back as a UTC date-time -/
theorem datetime_rt_utc (d : PDate) (h mi s : Nat) (hd : d.valid = true) (ht : validTime h mi s = true) :
    vDatetimeFrom (vDatetimeTo ⟨d, h, mi, s, true⟩) = .ok ⟨d, h, mi, s, true⟩ :=
  datetime_rt _ (by simp [PDateTime.valid, hd, ht])

/-! ## TIME (finding D08: the UTC designator is lost in both directions) -/

/-- FULL statement (false on the code): a time survives encode-decode. -/
def time_rt_full : Prop := ∀ v : PTime, v.valid = true → vTimeFrom (vTimeTo v) = .ok v
/-- FULL statement (false on the code): the encoded time is the RFC TIME text of that value. -/
def time_grammar_full : Prop := ∀ v : PTime, v.valid = true → rfcTime (vTimeTo v) = some v
/-- FULL statement (false on the code): every TIME text decodes to the RFC value. -/
def decode_grammar_time_full : Prop := ∀ (t : Str) (v : PTime), rfcTime t = some v → vTimeFrom t = .ok v

/-- The encoded time is an RFC TIME text; it is the text of the value with the UTC flag dropped. -/
theorem time_grammar_partial (v : PTime) (h : v.valid = true) :
    rfcTime (vTimeTo v) = some { v with utc := false } := by
  obtain ⟨hh, mi, s, z⟩ := v
  have := rfcTime_hmsTo hh mi s false h
  rwa [if_neg Bool.false_ne_true, List.append_nil] at this

/-- Every TIME text decodes to the right hour, minute and second — as a naive time, whatever the text says. -/
theorem decode_grammar_time_partial (t : Str) (v : PTime) (h : rfcTime t = some v) :
    vTimeFrom t = .ok { v with utc := false } :=
  rfcTime_vTimeFrom h

/-- Every second of the day, as a naive time, survives encode-decode. -/
theorem time_rt_partial (v : PTime) (h : v.valid = true) (hn : v.utc = false) :
    vTimeFrom (vTimeTo v) = .ok v := by
  have := decode_grammar_time_partial _ _ (time_grammar_partial v h)
  obtain ⟨hh, mi, s, z⟩ := v
  simp only [] at hn; subst hn
  exact this

/-- The witness of D08, by evaluation: "120000Z" is the RFC text of 12:00:00 UTC and decodes to naive 12:00:00. -/
theorem time_utc_witness :
    rfcTime "120000Z".toList = some ⟨12, 0, 0, true⟩ ∧ vTimeFrom "120000Z".toList = .ok ⟨12, 0, 0, false⟩ ∧
    vTimeTo ⟨12, 0, 0, true⟩ = "120000".toList := by
  repeat rw [String.toList_ofList]
  decide +kernel

theorem decode_grammar_time_witness : ¬ decode_grammar_time_full := by
  intro h
  have := h "120000Z".toList ⟨12, 0, 0, true⟩ (by decide)
  revert this; decide

theorem time_rt_witness : ¬ time_rt_full := by
  intro h
  have := h ⟨12, 0, 0, true⟩ (by decide)
  revert this; decide

theorem time_grammar_witness : ¬ time_grammar_full := by
  intro h
  have := h ⟨12, 0, 0, true⟩ (by decide)
  revert this; decide

/-! ## DURATION (every whole-second `timedelta`, positive, zero or negative) -/

/-- The encoded duration is an RFC 5545 `dur-value` whose value is the duration. -/
theorem duration_grammar (s : Int) : rfcDuration (durTo s) = some s := rfcDuration_durTo s

theorem duration_grammar_text (s : Int) : durText (durTo s) = true := by
  simp [durText, duration_grammar s]

/-- Every RFC `dur-value` is matched by `DURATION_REGEX` and decodes to its RFC value. -/
theorem decode_grammar_duration (t : Str) (v : Int) (h : rfcDuration t = some v) : durFrom t = some v :=
  rfcDuration_durFrom h

/-- `vDuration.from_ical(vDuration(td).to_ical()) == td` -/
theorem duration_rt (s : Int) : durFrom (durTo s) = some s :=
  decode_grammar_duration _ _ (duration_grammar s)

/-! ## UTC-OFFSET -/

theorem utcoffset_grammar (s : Int) (h : s.natAbs < 86400) : rfcUtcOffset (offTo s) = some s :=
  rfcUtcOffset_offTo s h

theorem decode_grammar_utcoffset (t : Str) (v : Int) (h : rfcUtcOffset t = some v) : offFrom t = .ok v :=
  rfcUtcOffset_offFrom h

/-- every offset of whole seconds with |offset| < 24 h -/
theorem utcoffset_rt (s : Int) (h : s.natAbs < 86400) : offFrom (offTo s) = .ok s :=
  decode_grammar_utcoffset _ _ (utcoffset_grammar s h)

/-- `-0000` and `-000000` are never written, whatever the magnitude of the offset. -/
theorem utcoffset_never_minus_zero (s : Int) :
    offTo s ≠ "-0000".toList ∧ offTo s ≠ "-000000".toList := by
  constructor
  · intro h; exact offTo_not_minus_zeros s _ h (by decide)
  · intro h; exact offTo_not_minus_zeros s _ h (by decide)

/-! ## INTEGER, BOOLEAN -/

theorem int_grammar (z : Int) : rfcInteger (intTo z) = some z := rfcInteger_intTo z

theorem decode_grammar_int (t : Str) (v : Int) (h : rfcInteger t = some v) : intFrom t = .ok v :=
  rfcInteger_intFrom h

theorem int_rt (z : Int) : intFrom (intTo z) = .ok z := decode_grammar_int _ _ (int_grammar z)

theorem bool_grammar (b : Bool) : rfcBoolean (boolTo b) = some b := by cases b <;> decide

theorem decode_grammar_bool (t : Str) (b : Bool) (h : rfcBoolean t = some b) : boolFrom t = .ok b := by
  unfold rfcBoolean at h
  unfold boolFrom
  simp only []
  split at h
  · next h1 => cases h; simp [h1]
  · next h1 =>
    split at h
    · next h2 => cases h; simp [h2]
    · cases h

theorem bool_rt (b : Bool) : boolFrom (boolTo b) = .ok b := by cases b <;> decide

/-! ## weekday (`weekdaynum`), frequency, month -/

/-- Every RFC `weekdaynum` text decodes to a `vWeekday` equal to the text, with the weekday and the
    signed ordinal the RFC assigns (`i` = index of the day in the table, `r` = ordinal or none). -/
theorem decode_grammar_weekday (t : Str) (i : Nat) (r : Option Int) (h : rfcWeekdayNum t = some (i, r)) :
    ∃ wd, weekDays[i]? = some wd ∧ vWeekdayFrom t = .ok ⟨t, wd, r⟩ := by
  have hu := rfcWeekdayNum_upper h
  obtain ⟨sgn, rel, wd, rfl, hs, hl, hd, hw, hi, rfl⟩ := rfcWeekdayNum_inv h
  refine ⟨wd, hi, ?_⟩
  unfold vWeekdayFrom
  rw [hu]
  exact vWeekdayNew_parts sgn rel wd hs hl hd hw

/-- A weekday value in RFC form is written as itself and read back unchanged. -/
theorem weekday_rt (t : Str) (i : Nat) (r : Option Int) (h : rfcWeekdayNum t = some (i, r)) :
    ∃ wd, weekDays[i]? = some wd ∧ vWeekdayTo ⟨t, wd, r⟩ = t ∧
      vWeekdayFrom (vWeekdayTo ⟨t, wd, r⟩) = .ok ⟨t, wd, r⟩ := by
  obtain ⟨wd, hi, hdec⟩ := decode_grammar_weekday t i r h
  have hu : upper t = t := rfcWeekdayNum_upper h
  refine ⟨wd, hi, hu, ?_⟩
  show vWeekdayFrom (upper t) = _
  rw [hu]; exact hdec

/-- the seven frequencies -/
theorem frequency_rt (s : Str) (h : s ∈ frequencies) : freqFrom (freqTo s) = .ok s := by
  rw [freqTo, mem_frequencies_upper h]
  exact freqFrom_mem h

theorem frequency_grammar (s : Str) (h : s ∈ frequencies) : rfcFreq (freqTo s) = some s :=
  rfcFreq_freqTo s h

theorem decode_grammar_frequency (t v : Str) (h : rfcFreq t = some v) : freqFrom t = .ok v := by
  unfold rfcFreq at h
  split at h
  · next hc => cases h; exact freqFrom_mem (by simpa using hc)
  · cases h

/-- every month number (no range check in the code; RFC 7529 leap suffix) -/
theorem month_rt (n : Nat) (leap : Bool) : vMonthFrom (vMonthTo n leap) = .ok ((n : Int), leap) := by
  unfold vMonthFrom vMonthTo
  rw [intToStr_nat]
  cases leap
  · simp only [Bool.false_eq_true, if_false, List.append_nil]
    rw [vMonthNew_digits _ (isDigitStr_natToStr n), ofDigits_natToStr]
  · simp only [if_true]
    rw [vMonthNew_L _ (isDigitStr_natToStr n), ofDigits_natToStr]

/-- months 1-12, with or without the leap suffix, are written in the `monthnum` grammar -/
theorem month_grammar (n : Nat) (leap : Bool) (h1 : 1 ≤ n) (h2 : n ≤ 12) :
    rfcMonth (vMonthTo n leap) = some ((n : Int), leap) :=
  rfcMonth_vMonthTo n leap h1 h2

theorem decode_grammar_month (t : Str) (v : Int × Bool) (h : rfcMonth t = some v) : vMonthFrom t = .ok v := by
  obtain ⟨s, hs, hv, hform⟩ := rfcMonth_inv h
  obtain ⟨n, lp⟩ := v
  simp only [] at hv hform
  unfold vMonthFrom
  rcases hform with ⟨rfl, rfl⟩ | ⟨rfl, rfl⟩
  · rw [vMonthNew_digits _ hs, hv]
  · rw [vMonthNew_L _ hs, hv]

/-! ## PERIOD (explicit and start + duration) -/

theorem period_grammar_explicit (s e : PDateTime) (hs : s.valid = true) (he : e.valid = true) :
    rfcPeriod (vPeriodTo (.dt s) (.dt e)) = some (.period (.dt s) (.dt e)) :=
  rfcPeriod_vPeriodTo_dt s e hs he

theorem period_grammar_duration (s : PDateTime) (d : Int) (hs : s.valid = true) :
    rfcPeriod (vPeriodTo (.dt s) (.dur d)) = some (.period (.dt s) (.dur d)) :=
  rfcPeriod_vPeriodTo_dur s d hs

/-- Every RFC `period` text decodes to its start and its end or duration. -/
theorem decode_grammar_period (t : Str) (p : DDD) (h : rfcPeriod t = some p) : vPeriodFrom t = .ok p :=
  rfcPeriod_vPeriodFrom h

theorem period_rt_explicit (s e : PDateTime) (hs : s.valid = true) (he : e.valid = true) :
    vPeriodFrom (vPeriodTo (.dt s) (.dt e)) = .ok (.period (.dt s) (.dt e)) :=
  decode_grammar_period _ _ (period_grammar_explicit s e hs he)

theorem period_rt_duration (s : PDateTime) (d : Int) (hs : s.valid = true) :
    vPeriodFrom (vPeriodTo (.dt s) (.dur d)) = .ok (.period (.dt s) (.dur d)) :=
  decode_grammar_period _ _ (period_grammar_duration s d hs)

/-! ## `vDDDTypes.from_ical`: each grammar-valid text reaches the decoder of its own type -/

theorem ddd_dispatch_date (t : Str) (v : PDate) (h : rfcDate t = some v) :
    dddFrom t = (vDateFrom t).map (fun x => .atom (.date x)) ∧ dddFrom t = .ok (.atom (.date v)) := by
  have := dddCore_date vPeriodFrom h
  exact ⟨this, by rw [show dddFrom t = _ from this, rfcDate_vDateFrom h]; rfl⟩

theorem ddd_dispatch_datetime (t : Str) (v : PDateTime) (h : rfcDateTime t = some v) :
    dddFrom t = (vDatetimeFrom t).map (fun x => .atom (.dt x)) ∧ dddFrom t = .ok (.atom (.dt v)) := by
  have := dddCore_datetime vPeriodFrom h
  exact ⟨this, by rw [show dddFrom t = _ from this, rfcDateTime_vDatetimeFrom h]; rfl⟩

/-- TIME texts reach the time decoder (which then loses the UTC flag: D08). -/
theorem ddd_dispatch_time (t : Str) (v : PTime) (h : rfcTime t = some v) :
    dddFrom t = (vTimeFrom t).map (fun x => .atom (.time x)) ∧
      dddFrom t = .ok (.atom (.time { v with utc := false })) := by
  have := dddCore_time vPeriodFrom h
  exact ⟨this, by rw [show dddFrom t = _ from this, rfcTime_vTimeFrom h]; rfl⟩

theorem ddd_dispatch_duration (t : Str) (v : Int) (h : rfcDuration t = some v) :
    dddFrom t = (durFromE t).map (fun s => .atom (.dur s)) ∧ dddFrom t = .ok (.atom (.dur v)) := by
  have := dddCore_duration vPeriodFrom h
  exact ⟨this, by rw [show dddFrom t = _ from this, durFromE_of (rfcDuration_durFrom h)]; rfl⟩

theorem ddd_dispatch_period (t : Str) (p : DDD) (h : rfcPeriod t = some p) :
    dddFrom t = vPeriodFrom t ∧ dddFrom t = .ok p := by
  have := dddFrom_period h
  exact ⟨this, by rw [this, rfcPeriod_vPeriodFrom h]⟩

/-- The five classes are pairwise disjoint: a text is grammar-valid for at most one of DATE,
    DATE-TIME, TIME, DURATION, PERIOD. -/
theorem ddd_classes_disjoint (t : Str) :
    (dateText t = true → dateTimeText t = false ∧ timeText t = false ∧ durText t = false ∧ periodText t = false) ∧
    (dateTimeText t = true → timeText t = false ∧ durText t = false ∧ periodText t = false) ∧
    (timeText t = true → durText t = false ∧ periodText t = false) ∧
    (durText t = true → periodText t = false) := by
  unfold dateText dateTimeText timeText durText periodText
  -- the lengths (8; 15 or 16; 6 or 7) tell DATE, DATE-TIME and TIME apart, the leading digit tells them from a
  -- DURATION, the `/` tells a PERIOD from them and its leading digit from a DURATION
  refine ⟨fun h => ⟨?_, ?_, ?_, ?_⟩, fun h => ⟨?_, ?_, ?_⟩, fun h => ⟨?_, ?_⟩, fun h => ?_⟩ <;>
    refine isSome_disjoint (fun a b ha hb => ?_) h
  · have := (sig_date ha).1; have := (sig_datetime hb).1; omega
  · have := (sig_date ha).1; have := (sig_time hb).1; omega
  · exact head_clash (sig_date ha).2.1 (sig_duration hb)
  · exact slash_clash (sig_date ha).2.2 (sig_period hb).2
  · have := (sig_datetime ha).1; have := (sig_time hb).1; omega
  · exact head_clash (sig_datetime ha).2.1 (sig_duration hb)
  · exact slash_clash (sig_datetime ha).2.2 (sig_period hb).2
  · exact head_clash (sig_time ha).2.1 (sig_duration hb)
  · exact slash_clash (sig_time ha).2.2 (sig_period hb).2
  · exact head_clash (sig_period hb).1 (sig_duration ha)

/-! ## Regenerated function bodies = hand model

  `ICal.Gen.Bodies.*` are Lean definitions that tools/py2lean.py writes from the *current source text*
  of the `to_ical` methods on every run (local assignments, `if`/`elif`/`else`, f-strings, `//`, `%`,
  `abs`, Python truthiness, `timedelta` arithmetic; every `self.<attr>` and every external call is a
  parameter).  The `body_*` theorems below prove each regenerated body equal to the hand-written
  encoder of ICal/Model/Codec.lean on the whole domain of the model, so every theorem of this file
  about `durTo`, `offTo`, `vDateTo`, `vDatetimeTo`, `vMonthTo`, `boolTo`, `intTo` is re-checked against
  what the code says now, without sampling: a body whose meaning changed makes this file fail to
  build.  `timedelta` is `PyRT.TD` in CPython's normal form (`TD.wf`: `0 <= seconds < 86400`);
  `TD.toSeconds` / `TD.ofSeconds` connect it to the `Int` seconds of the model.  The translator and
  its runtime (ICal/Model/PyRT.lean) are trusted and differentially tested against the real functions
  and CPython's operators (harness/props/C03.py, "translated bodies").
  `vTime.to_ical` uses `strftime` and is outside the translated subset (hand model, correspondence). -/

open PyRT in
theorem body_vDuration_to_ical (td : TD) (h : td.wf) :
    Gen.Bodies.vDuration_to_ical td = durTo td.toSeconds :=
  Bodies.vDuration_to_ical_eq td h

open PyRT in
theorem body_vUTCOffset_to_ical (td : TD) (h : td.wf) :
    Gen.Bodies.vUTCOffset_to_ical td = offTo td.toSeconds :=
  Bodies.vUTCOffset_to_ical_eq td h

theorem body_vDate_to_ical (d : PDate) : Gen.Bodies.vDate_to_ical (Bodies.dateOf d) = vDateTo d :=
  Bodies.vDate_to_ical_eq d

/-- `tzid` is the answer of `tzid_from_dt(dt)` (external, a parameter); the model's `utc` flag is
    `tzid == 'UTC'`, which is part of the translated body. -/
theorem body_vDatetime_to_ical (t : PDateTime) (tzid : Option Str) (h : t.utc = (tzid == some Bodies.UTC)) :
    Gen.Bodies.vDatetime_to_ical (Bodies.dateTimeOf t) tzid = vDatetimeTo t :=
  Bodies.vDatetime_to_ical_eq t tzid h

theorem body_vMonth_str (n : Int) (leap : Bool) : Gen.Bodies.vMonth_str n leap = vMonthTo n leap :=
  Bodies.vMonth_str_eq n leap

theorem body_vMonth_to_ical (n : Int) (leap : Bool) : Gen.Bodies.vMonth_to_ical n leap = vMonthTo n leap :=
  Bodies.vMonth_to_ical_eq n leap

theorem body_vBoolean_to_ical (n : Int) : Gen.Bodies.vBoolean_to_ical n = boolTo (n != 0) :=
  Bodies.vBoolean_to_ical_eq n

theorem body_vInt_to_ical (n : Int) : Gen.Bodies.vInt_to_ical n = intTo n :=
  Bodies.vInt_to_ical_eq n

/-- every `Int` of seconds is the value of exactly one normal-form `timedelta`, so the two theorems
    above cover the whole domain of `durTo` / `offTo` -/
theorem body_timedelta_domain (s : Int) :
    (PyRT.TD.ofSeconds s).wf ∧ (PyRT.TD.ofSeconds s).toSeconds = s ∧
      Gen.Bodies.vDuration_to_ical (PyRT.TD.ofSeconds s) = durTo s ∧
      Gen.Bodies.vUTCOffset_to_ical (PyRT.TD.ofSeconds s) = offTo s :=
  ⟨Bodies.ofSeconds_wf s, Bodies.toSeconds_ofSeconds s, Bodies.vDuration_of_seconds s, Bodies.vUTCOffset_of_seconds s⟩

/-- composition, as an instance of what the tie buys: the round trip and the grammar clause hold of
    the text that the *translated code* produces -/
theorem body_duration_rt (td : PyRT.TD) (h : td.wf) :
    durFrom (Gen.Bodies.vDuration_to_ical td) = some td.toSeconds ∧
      rfcDuration (Gen.Bodies.vDuration_to_ical td) = some td.toSeconds := by
  rw [body_vDuration_to_ical td h]
  exact ⟨duration_rt _, duration_grammar _⟩

theorem body_utcoffset_rt (td : PyRT.TD) (h : td.wf) (hb : td.toSeconds.natAbs < 86400) :
    offFrom (Gen.Bodies.vUTCOffset_to_ical td) = .ok td.toSeconds ∧
      rfcUtcOffset (Gen.Bodies.vUTCOffset_to_ical td) = some td.toSeconds := by
  rw [body_vUTCOffset_to_ical td h]
  exact ⟨utcoffset_rt _ hb, utcoffset_grammar _ hb⟩

theorem body_date_rt (d : PDate) (h : d.valid = true) :
    vDateFrom (Gen.Bodies.vDate_to_ical (Bodies.dateOf d)) = .ok d ∧
      rfcDate (Gen.Bodies.vDate_to_ical (Bodies.dateOf d)) = some d := by
  rw [body_vDate_to_ical d]
  exact ⟨date_rt d h, date_grammar d h⟩

/-! ## Regenerated DECODER bodies = hand model

  `ICal.Gen.BodiesDec.*` are written by tools/py2lean.py from the current source of the `from_ical`
  methods (slicing, `int()`, `date/time/datetime(...)`, `timedelta(...)`, `try .. except: raise
  ValueError`, early returns).  A function that can raise is `Py T = Except Exc T`; `Bodies.liftRes f`
  carries a result of the hand model over (`ok v` to `ok (f v)`, ValueError to ValueError).  `int(str)`,
  `validDate`, `okTime` are the definitions of the hand model itself (ICal/Model/PyRTDec.lean reuses
  them), so these theorems tie the control flow, the slice bounds, the range checks and the error
  handling of each decoder.  Parameters: `vDatetime.from_ical` is specialised to `timezone=None` and
  takes `tzp.localize_utc` as a function parameter (the model's `utc` flag = "it was applied");
  `vDuration.from_ical` takes the match object of `DURATION_REGEX.match(t)`, for which
  `PyRT.durGroups` is the hand model (same scanner as `durFrom`, returning the group texts; compared
  with the real `re` module every run). -/

theorem body_vDate_from_ical (t : Str) :
    Gen.BodiesDec.vDate_from_ical t = Bodies.liftRes Bodies.dateOf (vDateFrom t) :=
  Bodies.vDate_from_ical_eq t

theorem body_vTime_from_ical (t : Str) :
    Gen.BodiesDec.vTime_from_ical t = Bodies.liftRes Bodies.timeOf (vTimeFrom t) :=
  Bodies.vTime_from_ical_eq t

open PyRT in
theorem body_vDatetime_from_ical (t : Str) (localizeUtc : PyDateTime → PyDateTime) :
    Gen.BodiesDec.vDatetime_from_ical t localizeUtc =
      Bodies.liftRes (fun p => if p.utc then localizeUtc (Bodies.dateTimeOf { p with utc := false })
                               else Bodies.dateTimeOf p) (vDatetimeFrom t) :=
  Bodies.vDatetime_from_ical_eq t localizeUtc

theorem body_vUTCOffset_from_ical (t : Str) :
    Gen.BodiesDec.vUTCOffset_from_ical t = Bodies.liftRes PyRT.TD.ofSeconds (offFrom t) :=
  Bodies.vUTCOffset_from_ical_eq t

theorem body_vDuration_from_ical (t : Str) :
    Gen.BodiesDec.vDuration_from_ical t (PyRT.durGroups t) = Bodies.liftRes PyRT.TD.ofSeconds (durFromE t) :=
  Bodies.vDuration_from_ical_eq t

theorem body_vInt_from_ical (t : Str) : Gen.BodiesDec.vInt_from_ical t = Bodies.liftRes id (intFrom t) :=
  Bodies.vInt_from_ical_eq t

/-- both directions translated: the regenerated decoder inverts the regenerated encoder -/
theorem body_date_decode_encode (d : PDate) (h : d.valid = true) :
    Gen.BodiesDec.vDate_from_ical (Gen.Bodies.vDate_to_ical (Bodies.dateOf d)) = .ok (Bodies.dateOf d) := by
  rw [body_vDate_to_ical, body_vDate_from_ical, date_rt d h]; rfl

theorem body_duration_decode_encode (s : Int) :
    Gen.BodiesDec.vDuration_from_ical (Gen.Bodies.vDuration_to_ical (PyRT.TD.ofSeconds s))
        (PyRT.durGroups (Gen.Bodies.vDuration_to_ical (PyRT.TD.ofSeconds s))) = .ok (PyRT.TD.ofSeconds s) := by
  rw [(body_timedelta_domain s).2.2.1, body_vDuration_from_ical]
  have h := duration_rt s
  simp only [durFromE, h]; rfl

theorem body_utcoffset_decode_encode (s : Int) (hb : s.natAbs < 86400) :
    Gen.BodiesDec.vUTCOffset_from_ical (Gen.Bodies.vUTCOffset_to_ical (PyRT.TD.ofSeconds s)) =
      .ok (PyRT.TD.ofSeconds s) := by
  rw [(body_timedelta_domain s).2.2.2, body_vUTCOffset_from_ical, utcoffset_rt s hb]; rfl

/-! ## Non-vacuity: the hypotheses are satisfiable, on boundary values and on the quirks -/

example : (⟨2024, 2, 29⟩ : PDate).valid = true := by decide +kernel
example : (⟨1900, 2, 29⟩ : PDate).valid = false := by decide +kernel
example : (⟨1, 1, 1⟩ : PDate).valid = true ∧ (⟨9999, 12, 31⟩ : PDate).valid = true := by decide +kernel
example : vDateTo ⟨1, 1, 1⟩ = "00010101".toList := by
  rw [String.toList_ofList]
  decide +kernel
example : vDateFrom "20240229".toList = .ok ⟨2024, 2, 29⟩ := by
  rw [String.toList_ofList]
  decide +kernel
example : vDateFrom "20230229".toList = .error .valueError := by
  rw [String.toList_ofList]
  decide +kernel
example : rfcDateTime "99991231T235959Z".toList = some ⟨⟨9999, 12, 31⟩, 23, 59, 59, true⟩ := by
  rw [String.toList_ofList]
  decide +kernel
example : (⟨⟨2000, 2, 29⟩, 23, 59, 59, true⟩ : PDateTime).valid = true := by decide +kernel
example : (⟨23, 59, 59, false⟩ : PTime).valid = true := by decide +kernel
example : durTo (-93784) = "-P1DT2H3M4S".toList := by
  rw [String.toList_ofList]
  decide +kernel
example : durTo 3604 = "PT1H0M4S".toList := by
  rw [String.toList_ofList]
  decide +kernel
example : durTo 0 = "P0D".toList := by
  rw [String.toList_ofList]
  decide +kernel
example : rfcDuration "PT1H30S".toList = none := by  -- not RFC grammar ...
  rw [String.toList_ofList]
  decide +kernel
example : durFrom "PT1H30S".toList = some 3630 := by  -- ... but accepted (not a violation)
  rw [String.toList_ofList]
  decide +kernel
example : durFrom "P1D\n".toList = some 86400 := by  -- `$` matches before a final LF
  rw [String.toList_ofList]
  decide +kernel
example : rfcDuration "+P2W".toList = some 1209600 := by
  rw [String.toList_ofList]
  decide +kernel
example : offTo (-3600) = "-0100".toList ∧ offTo 0 = "+0000".toList ∧ offTo 19801 = "+053001".toList := by
  repeat rw [String.toList_ofList]
  decide +kernel
example : offFrom "-0000".toList = .ok 0 ∧ rfcUtcOffset "-0000".toList = none := by
  repeat rw [String.toList_ofList]
  decide +kernel
example : offFrom "+2400".toList = .error .valueError := by
  rw [String.toList_ofList]
  decide +kernel
example : (-86399 : Int).natAbs < 86400 := by decide +kernel
example : intFrom " +1_000 ".toList = .ok 1000 := by  -- `int()` quirks are modelled
  rw [String.toList_ofList]
  decide +kernel
example : rfcWeekdayNum "-53SU".toList = some (0, some (-53)) := by
  rw [String.toList_ofList]
  decide +kernel
example : vWeekdayFrom "-1su".toList = .ok ⟨"-1SU".toList, "SU".toList, some (-1)⟩ := by
  repeat rw [String.toList_ofList]
  decide +kernel
example : "YEARLY".toList ∈ frequencies := by
  rw [String.toList_ofList]
  decide +kernel
example : vMonthFrom "5L".toList = .ok (5, true) ∧ vMonthFrom "".toList = .error .indexError := by
  repeat rw [String.toList_ofList]
  decide +kernel
example : rfcPeriod "19970101T180000Z/PT5H30M".toList =
    some (.period (.dt ⟨⟨1997, 1, 1⟩, 18, 0, 0, true⟩) (.dur 19800)) := by
  rw [String.toList_ofList]
  decide +kernel
example : dddFrom "19970101T180000Z/19970102T070000Z".toList =
    .ok (.period (.dt ⟨⟨1997, 1, 1⟩, 18, 0, 0, true⟩) (.dt ⟨⟨1997, 1, 2⟩, 7, 0, 0, true⟩)) := by
  rw [String.toList_ofList]
  decide +kernel
example : dateText "20240229".toList = true ∧ timeText "235959Z".toList = true ∧ durText "-PT0S".toList = true := by
  repeat rw [String.toList_ofList]
  decide +kernel
example : (⟨-2, 79200⟩ : PyRT.TD).wf ∧ (⟨-2, 79200⟩ : PyRT.TD).toSeconds = -93600 := by decide +kernel
example : Gen.Bodies.vDuration_to_ical ⟨-2, 79200⟩ = "-P1DT2H".toList := by  -- `td = -td`
  rw [String.toList_ofList]
  decide +kernel
example : Gen.Bodies.vDuration_to_ical ⟨0, 3604⟩ = "PT1H0M4S".toList := by  -- `minutes or (hours and seconds)`
  rw [String.toList_ofList]
  decide +kernel
example : Gen.Bodies.vUTCOffset_to_ical ⟨-1, 82800⟩ = "-0100".toList := by
  rw [String.toList_ofList]
  decide +kernel
example : Gen.Bodies.vDatetime_to_ical ⟨2024, 2, 29, 23, 59, 59⟩ (some Bodies.UTC) = "20240229T235959Z".toList := by
  rw [String.toList_ofList]
  decide +kernel
example : PyRT.fmtZ 2 (-5) = "-5".toList ∧ PyRT.fmtZ 3 (-5) = "-05".toList ∧ PyRT.fmtZ 2 123 = "123".toList := by
  repeat rw [String.toList_ofList]
  decide +kernel
example : PyRT.floorDiv (-7) 2 = -4 ∧ PyRT.pyMod (-7) 2 = 1 ∧ PyRT.pyMod 7 (-2) = -1 := by decide +kernel
example : PyRT.TD.neg ⟨0, 1⟩ = ⟨-1, 86399⟩ := by decide +kernel
example : Gen.BodiesDec.vDate_from_ical "20240229".toList = .ok ⟨2024, 2, 29⟩ := by
  rw [String.toList_ofList]
  decide +kernel
example : Gen.BodiesDec.vDate_from_ical "20230229".toList = .error .valueError := by
  rw [String.toList_ofList]
  decide +kernel
example : Gen.BodiesDec.vUTCOffset_from_ical "+2400".toList = .error .valueError := by
  rw [String.toList_ofList]
  decide +kernel
example : Gen.BodiesDec.vUTCOffset_from_ical "-0130".toList = .ok ⟨-1, 81000⟩ := by
  rw [String.toList_ofList]
  decide +kernel
example : (PyRT.durGroups "-P1DT2H".toList).map (fun g => (g.1, g.2.2.1, g.2.2.2.1)) =
    some (some ['-'], some ['1'], some ['2']) := by
  rw [String.toList_ofList]
  decide +kernel

/-! ### the typed dispatchers as regenerated: `vDDDTypes.from_ical` / `to_ical`, `vPeriod.from_ical` / `to_ical`

`Bodies.dddFromP` / `periodFromP` / `atomToP` / `periodToP` are the translated functions with the pieces of
ICal/Model/DDDPieces.lean; `lu` stands for `tzp.localize_utc`, `tz` for `tzid_from_dt`. -/

/-- the order of the tests of `vDDDTypes.from_ical` is the model's `dddFrom` -/
theorem body_vDDDTypes_from_ical (lu : PyRT.PyDateTime → PyRT.PyDateTime) (t : Str) :
    Bodies.dddFromP lu t = Bodies.liftRes (Bodies.dddPy lu) (dddFrom t) := Bodies.ddd_from_eq lu t

theorem body_vPeriod_from_ical (lu : PyRT.PyDateTime → PyRT.PyDateTime) (t : Str) :
    (Bodies.periodFromP lu t >>= fun r => (pure (PyRT.PyDDD.period r.1 r.2) : PyRT.Py PyRT.PyDDD)) =
      Bodies.liftRes (Bodies.dddPy lu) (vPeriodFrom t) := Bodies.period_eq lu t

/-- the two functions call each other in the source; the knot is cut on the parts of a period, where the dispatcher
    ignores its period parameter -/
theorem body_vDDDTypes_inner_indep (lu : PyRT.PyDateTime → PyRT.PyDateTime)
    (per per' : Str → Unit → PyRT.Py (PyRT.PyDDD × PyRT.PyDDD)) (t : Str) (h : (upper t).contains '/' = false) :
    Gen.BodiesDec.vDDDTypes_from_ical (ical := t) (m_of := PyRT.durGroups) (period_from_ical := per) (localize_utc := lu) =
      Gen.BodiesDec.vDDDTypes_from_ical (ical := t) (m_of := PyRT.durGroups) (period_from_ical := per') (localize_utc := lu) :=
  Bodies.ddd_inner_indep lu per per' t h

theorem body_vDDDTypes_to_ical (tz : PyRT.PyDateTime → Option Str) (a : Atom) (h : Bodies.TzAgrees tz a) :
    Bodies.atomToP tz a = .ok (atomTo a) := Bodies.atom_to_eq tz a h

theorem body_vPeriod_to_ical (tz : PyRT.PyDateTime → Option Str) (a b : Atom) (ha : Bodies.TzAgrees tz a) (hb : Bodies.TzAgrees tz b) :
    Bodies.periodToP tz a b = .ok (vPeriodTo a b) := Bodies.period_to_eq tz a b ha hb

/-- the regenerated `vMonth.__new__` on a str (`vMonth.from_ical(t)` is `cls(t)`) is the model's `vMonthNew` -/
theorem body_vMonth_new (t : Str) :
    Gen.BodiesDec.vMonth_new (month := t) (params := ()) (new_int := Bodies.moNew) (set_leap := Bodies.moSetLeap)
      (params_of := fun _ => ()) (set_params := fun m _ => m) = Bodies.liftRes id (vMonthNew t) := Bodies.vMonth_new_eq t

end ICal.C03
