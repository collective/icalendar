/-
  C05 — joining a name, a parameter map and a value text into a content line and splitting the
  line again returns the same name, the same parameters and the same value text; whatever a
  value holds, the line read back has the same name and the same parameters: a value cannot
  inject structure.
  Property theorems only; helper lemmas and the definitions `NoPlaceholderPair`, `NoPercentCode`,
  `Hazardless`, `ParamsHazardless`, `lineText`, `special`, `viaPlaceholders`,
  `readBack`, `rawScan`, `RawBal` are in ICal/Lemmas/Line.lean;
  `ParamDomain`, `canon`, `ValueOk`, `pvalStrs`, `mapPVal` in ICal/Lemmas/Params.lean (C08).
  `fromParts`, `parts`, `escapeString`, `unescapeString` are the models of Contentline.from_parts,
  Contentline.parts, escape_string, unescape_string, built on the *generated* replace chains and
  character classes (ICal.Gen, regenerated from /repo each run).

  Recorded defects the statements respect: D02 (`parts()` turns `\,` `\:` `\;` `\\` of a value or
  parameter value into `,` `:` `;` `\`) and D03 (a literal `%2C` `%3A` `%3B` `%5C` becomes
  `,` `:` `;` `\`): the *equalities on values* carry the hypothesis `Hazardless`; the statements
  on names and parameters (the injection statements) carry none on the value.
-/
import ICal.Lemmas.Line
import ICal.Lemmas.BodiesLine
namespace ICal.C05

/-- `escape_string` leaves a text alone in which no backslash is followed by `,` `:` `;` `\`. -/
theorem escapeString_id (s : Str) (h : NoPlaceholderPair s = true) : escapeString s = s :=
  ICal.escapeString_id s h

/-- `unescape_string` leaves a text alone that holds none of `%2C` `%3A` `%3B` `%5C`. -/
theorem unescapeString_id (s : Str) (h : NoPercentCode s = true) : unescapeString s = s :=
  ICal.unescapeString_id s h

/-- The hypothesis `NoPlaceholderPair`, said with the standard substring relation `<:+:`. -/
theorem noPlaceholderPair_iff (s : Str) : NoPlaceholderPair s = true ↔
    ∀ d, (d = ',' ∨ d = ':' ∨ d = ';' ∨ d = '\\') → ¬ ['\\', d] <:+: s :=
  ICal.noPlaceholderPair_iff s

/-- The hypothesis `NoPercentCode`, said with the standard substring relation `<:+:`. -/
theorem noPercentCode_iff (s : Str) : NoPercentCode s = true ↔
    ¬ ['%', '2', 'C'] <:+: s ∧ ¬ ['%', '3', 'A'] <:+: s ∧ ¬ ['%', '3', 'B'] <:+: s ∧ ¬ ['%', '5', 'C'] <:+: s :=
  ICal.noPercentCode_iff s

/-- Serialisation is refused for a raw line feed in the value. -/
theorem lf_refused (n : Str) (p : Params) (v : Str) (sorted : Bool) (h : LF ∈ v) :
    fromParts n p v sorted = .error .assertion := by
  rw [fromParts_eq]
  apply mkLine_lf
  unfold lineText
  split <;> simp [h]

/-- Serialisation of a NAME, a map of the domain and a value without line feed succeeds. -/
theorem fromParts_succeeds (n : Str) (p : Params) (v : Str) (sorted : Bool) (hn : validToken n = true)
    (hp : ParamDomain p) (hv : LF ∉ v) : ∃ l, fromParts n p v sorted = .ok l :=
  ⟨_, fromParts_ok n p v sorted hn hp hv⟩

/-- The split of a joined line, for EVERY value text `v` and EVERY parameter map of the domain
    (values may hold backslashes, `%XX`, `;X=1:` ...; no hazard hypothesis at all): the name is the
    name written, the parameters are those written — same names, sorted, every value string sent
    through `viaPlaceholders` = `unescape_string ∘ escape_string` (`readBack`) — and the value
    text is `viaPlaceholders v`. D02 and D03 are exactly the fact that `viaPlaceholders` is not
    the identity; nothing else of the line can change. -/
theorem parts_fromParts_any (n : Str) (p : Params) (v : Str) (hn : validToken n = true)
    (hp : ParamDomain p) (hv : LF ∉ v) :
    ∃ l, fromParts n p v true = .ok l ∧ parts l = some (n, readBack p, viaPlaceholders v) :=
  ⟨_, fromParts_ok n p v true hn hp hv, parts_lineText_anyValue n p v hn hp⟩

/-- `viaPlaceholders` is the identity on hazard-free text. -/
theorem viaPlaceholders_id (x : Str) (h : Hazardless x) : viaPlaceholders x = x :=
  ICal.viaPlaceholders_id x h

/-- No injection from the value: for EVERY value text `v` the line splits into exactly the name
    and the parameters that were joined (parameter values hazard-free). -/
theorem value_cannot_inject (n : Str) (p : Params) (v : Str) (hn : validToken n = true)
    (hp : ParamDomain p) (hpz : ParamsHazardless p) (hv : LF ∉ v) :
    ∃ l, fromParts n p v true = .ok l ∧
      parts l = some (n, canon p, unescapeString (escapeString v)) :=
  ⟨_, fromParts_ok n p v true hn hp hv, parts_lineText n p v hn hp hpz⟩

/-- Join/split inverse. Unbounded in the number of parameters, list and string lengths. -/
theorem parts_fromParts (n : Str) (p : Params) (v : Str) (hn : validToken n = true)
    (hp : ParamDomain p) (hpz : ParamsHazardless p) (hv : LF ∉ v) (hz : Hazardless v) :
    ∃ l, fromParts n p v true = .ok l ∧ parts l = some (n, canon p, v) := by
  refine ⟨_, fromParts_ok n p v true hn hp hv, ?_⟩
  rw [parts_lineText n p v hn hp hpz, ICal.escapeString_id v hz.1, ICal.unescapeString_id v hz.2]

/-- Join/split inverse without parameters. -/
theorem parts_fromParts_noparams (n v : Str) (hn : validToken n = true) (hv : LF ∉ v) (hz : Hazardless v) :
    fromParts n [] v = .ok (n ++ ':' :: v) ∧ parts (n ++ ':' :: v) = some (n, [], v) := by
  have h1 := fromParts_ok n [] v true hn (by decide) hv
  have h2 := parts_lineText n [] v hn (by decide) (by decide)
  have e : lineText n [] v true = n ++ ':' :: v := by simp [lineText]
  rw [e] at h1 h2
  rw [ICal.escapeString_id v hz.1, ICal.unescapeString_id v hz.2] at h2
  exact ⟨h1, h2⟩

/-- The full-strength statement (no hazard hypotheses) is FALSE of the code: D03. -/
def parts_fromParts_full : Prop :=
  ∀ (n : Str) (p : Params) (v : Str), validToken n = true → ParamDomain p → LF ∉ v →
    ∃ l, fromParts n p v true = .ok l ∧ parts l = some (n, canon p, v)

theorem parts_fromParts_full_refuted : ¬ parts_fromParts_full := by
  intro h
  obtain ⟨l, h1, h2⟩ := h ['U', 'R', 'L'] [] ['5', '0', '%', '2', 'C'] (by decide) (by decide) (by decide)
  rw [fromParts_inv h1] at h2
  revert h2
  decide +kernel

/-- The name read back is the name written, whatever the value text and the parameter values are. -/
theorem name_preserved (n : Str) (p : Params) (v : Str) (hn : validToken n = true) (hp : ParamDomain p) :
    ∀ l, fromParts n p v = .ok l → ∀ n' p' v', parts l = some (n', p', v') → n' = n := by
  intro l hl n' p' v' hparts
  rw [parts_of_fromParts n p v hn hp hl] at hparts
  injection hparts with h
  exact (congrArg Prod.fst h).symm

/-- No parameter is added, lost or renamed, whatever the value text and whatever the parameter
    values (any strings of the C08 value domain: backslashes, `%XX`, delimiters): the names read
    back are the names written, in sorted order, and each value is the written value sent through
    `viaPlaceholders` string by string. -/
theorem no_param_injection (n : Str) (p : Params) (v : Str) (hn : validToken n = true) (hp : ParamDomain p) :
    ∀ l, fromParts n p v = .ok l → ∀ n' p' v', parts l = some (n', p', v') →
      p' = readBack p ∧ p'.map Prod.fst = (canon p).map Prod.fst ∧
      (p'.map Prod.fst).Perm (p.map Prod.fst) ∧ p'.length = p.length := by
  intro l hl n' p' v' hparts
  rw [parts_of_fromParts n p v hn hp hl] at hparts
  injection hparts with h
  have e : p' = readBack p := (congrArg (fun t => t.2.1) h).symm
  subst e
  refine ⟨rfl, readBack_keys p, ?_, ?_⟩
  · rw [readBack_keys, canon_keys]
    exact (sortByKey_perm p).map Prod.fst
  · have := congrArg List.length (readBack_keys p)
    simpa [canon_length] using this

/-- A property written without parameters never acquires one, whatever the value text is. -/
theorem no_param_injection_noparams (n v : Str) (hn : validToken n = true) :
    ∀ l, fromParts n [] v = .ok l → ∀ n' p' v', parts l = some (n', p', v') → p' = [] :=
  fun l hl n' p' v' hparts => (no_param_injection n [] v hn (by decide) l hl n' p' v' hparts).1

/-- With hazard-free parameter values the parameters read back are exactly those written
    (sorted, `canon`), whatever the value text is. -/
theorem no_param_injection_hazardless (n : Str) (p : Params) (v : Str) (hn : validToken n = true)
    (hp : ParamDomain p) (hpz : ParamsHazardless p) :
    ∀ l, fromParts n p v = .ok l → ∀ n' p' v', parts l = some (n', p', v') → p' = canon p := by
  intro l hl n' p' v' hparts
  rw [← readBack_hazardless p hpz]
  exact (no_param_injection n p v hn hp l hl n' p' v' hparts).1

/-- `raw_value()` — the route TEXT values take since the D02 repair — returns the value text
    exactly as it was written, for EVERY value text and every parameter map of the domain: on
    this route the join/split inverse on the value needs no hazard hypothesis. -/
theorem rawValue_fromParts (n : Str) (p : Params) (v : Str) (sorted : Bool) (hn : validToken n = true)
    (hp : ParamDomain p) : ∀ l, fromParts n p v sorted = .ok l → rawValue l = v := by
  intro l hl
  rw [fromParts_inv hl]
  exact rawValue_lineText n p v sorted hn hp

/-! Witnesses of the recorded defects (why `Hazardless` is a hypothesis of the value equalities). -/

/-- D02: the value `a\\,b` (a, backslash, backslash, comma, b) loses a backslash. -/
theorem witness_D02_uri :
    parts ['U', 'R', 'L', ':', 'a', '\\', '\\', ',', 'b'] = some (['U', 'R', 'L'], [], ['a', '\\', ',', 'b']) := by
  decide +kernel

/-- D03: a literal `%2C` in a value reads back as a comma. -/
theorem witness_D03 :
    parts ['U', 'R', 'L', ':', '5', '0', '%', '2', 'C'] = some (['U', 'R', 'L'], [], ['5', '0', ',']) := by
  decide +kernel

/-- D02 in a parameter value: `K="a\;b"` reads back as `a;b`. -/
theorem witness_D02_param :
    parts ['X', ';', 'K', '=', '"', 'a', '\\', ';', 'b', '"', ':', 'v'] =
      some (['X'], [(['K'], .one ['a', ';', 'b'])], ['v']) := by
  decide +kernel

/-! Non-vacuity: the hypotheses are satisfiable; a hostile value text (`;Y=1:"`) and hostile
    parameter values are inside the domain of the injection theorems. -/
example : validToken ['X', '-', 'A'] = true := by decide +kernel
example : ParamDomain sampleParams ∧ ParamsHazardless sampleParams := by decide +kernel
example : Hazardless "a;X=1:b\"c,%2 \\n\\".toList ∧ LF ∉ "a;X=1:b\"c,%2 \\n\\".toList := by
  rw [String.toList_ofList]
  decide +kernel
example : ¬ Hazardless ['a', '\\', ',', 'b'] ∧ ¬ Hazardless ['%', '3', 'A'] := by decide +kernel
example : fromParts ['X', '-', 'A'] sampleParams ";Y=1:\"".toList =
    .ok "X-A;A.1=one;CN=\"x,;: y\";E=;X-B=\"a,b\",c;Z_=,:;Y=1:\"".toList :=
  eq_ok_of_toOption (by rw [String.toList_ofList, String.toList_ofList]; decide +kernel)
example : parts "X-A;A.1=one;CN=\"x,;: y\";E=;X-B=\"a,b\",c;Z_=,:;Y=1:\"".toList =
    some (['X', '-', 'A'], canon sampleParams, ";Y=1:\"".toList) := by
  rw [String.toList_ofList, String.toList_ofList]
  decide +kernel
example : fromParts ['A'] [] ['x', '\n'] = .error .assertion := by rfl
example : rawValue "X;K=\"a\\;L=1:b%3A\";M=\"x\\\\\",\";Y=2:\":a\\\\,b%2C".toList = "a\\\\,b%2C".toList := by
  rw [String.toList_ofList, String.toList_ofList]
  decide +kernel
/-- a map of the domain with hostile values: not hazard-free, covered by `no_param_injection` -/
example : ParamDomain hostileParams ∧ ¬ ParamsHazardless hostileParams := by decide +kernel
example : fromParts ['X'] hostileParams ['v'] = .ok "X;K=\"a\\;L=1:b%3A\";M=\"x\\\",\";Y=2:\":v".toList :=
  eq_ok_of_toOption (by rw [String.toList_ofList]; decide +kernel)
example : readBack hostileParams =
    [(['K'], .one "a;L=1:b:".toList), (['M'], .many ["x\\".toList, ";Y=2:".toList])] := by
  repeat rw [String.toList_ofList]
  decide +kernel
example : parts "X;K=\"a\\;L=1:b%3A\";M=\"x\\\",\";Y=2:\":v".toList =
    some (['X'], [(['K'], .one "a;L=1:b:".toList), (['M'], .many ["x\\".toList, ";Y=2:".toList])], ['v']) := by
  repeat rw [String.toList_ofList]
  decide +kernel

/-! ## Regenerated function bodies = hand model

  `ICal.Gen.BodiesLine.*` are written by tools/py2lean.py from the current source text on every run:
  the `.replace` chains `escape_string` / `unescape_string`, `Contentline.raw_value` (the `while`
  loop with its index, `continue` and `return`, as a recursion on fuel `len + 1`) and the scanning
  loop of `Contentline.parts` (a FRAGMENT: the `for i, ch in enumerate(st)` loop and the
  initialisation of `name_split`, `value_split`, `in_quotes`) - and the whole of `parts()` with its
  calls of `Parameters.from_ical`, `validate_token`, `Parameters(...)` as parameters (`body_parts`).  The theorems
  prove them equal to `escapeString`, `unescapeString`, `rawValue` and `scanParts`, which every
  theorem above is about; in particular WHICH string the indices are taken from and applied to is
  part of the translated code (a loop over `escape_string(self)` whose index is used on `self`
  does not have these meanings).  `raw_value` never runs out of fuel and never raises.
  `i` after the loop of `parts()` is the last index: the source reads `i + 1` (the length of the
  escaped line) only behind the test for an empty name, so the unbound case (`none`, empty line)
  is never read; the model writes `st.length` there. -/

theorem body_escape_string (s : Str) : Gen.BodiesLine.escape_string s = escapeString s :=
  Bodies.escape_string_eq s

theorem body_unescape_string (s : Str) : Gen.BodiesLine.unescape_string s = unescapeString s :=
  Bodies.unescape_string_eq s

theorem body_raw_value (line : Str) : Gen.BodiesLine.raw_value line = .ok (rawValue line) :=
  Bodies.raw_value_eq line

theorem body_parts_scan (st : Str) :
    Gen.BodiesLine.parts_scan st =
      (Bodies.optInt (scanParts st 0 false none none).1, Bodies.optInt (scanParts st 0 false none none).2,
        if st = [] then none else some (((st.length - 1 : Nat)) : Int)) :=
  Bodies.parts_scan_eq st

/-- The WHOLE of `Contentline.parts`, regenerated: `escape_string(self)`, the scanning loop, the name, the two
    checks, `value_split = i + 1`, the three slices of the ESCAPED line, `unescape_string`, the `try .. except
    ValueError`.  Its external calls are parameters (`validate_token`, `Parameters.from_ical(.., strict=self.strict)`,
    and the re-keying expression `Parameters((unescape_string(key), unescape_list_or_string(value)) for ..)`);
    given the hand model's `validToken`, `paramsFromIcal` and re-keying fold it IS the model `parts`. -/
theorem body_parts (line : Str) (strict : Bool) :
    Gen.BodiesLine.parts line Bodies.validateTokenP strict Bodies.paramsFromIcalP Bodies.paramsUnescapeP =
      (match parts line strict with
       | some r => .ok r
       | none => .error .valueError) := by
  rw [Bodies.parts_eq]
  cases parts line strict <;> rfl

/-- `value_split = i + 1` of the source is the model's `st.length` whenever it is read -/
theorem body_parts_scan_last (st : Str) (h : st ≠ []) :
    (Gen.BodiesLine.parts_scan st).2.2 = some ((st.length : Int) - 1) := by
  rw [body_parts_scan]
  have : 0 < st.length := List.length_pos_iff.mpr h
  simp only [h, if_false]
  congr 1; omega

example : (Gen.BodiesLine.raw_value "A;X=\":\":a\\:b:c".toList).toOption = some "a\\:b:c".toList := by
  rw [String.toList_ofList, String.toList_ofList]
  decide +kernel
example : Gen.BodiesLine.parts_scan "A;X=\":\":v".toList = (some 1, some 7, some 8) := by
  rw [String.toList_ofList]
  decide +kernel
example : Gen.BodiesLine.parts_scan [] = (none, none, none) := by decide +kernel

end ICal.C05
