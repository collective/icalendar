/-
  C12 — a VTIMEZONE is interpreted per RFC 5545 onset rules; a calendar's date-times get the
  calendar's own definition.
  Property theorems only; helper lemmas are in ICal/Lemmas/Tz.lean, the model in ICal/Model/Tz.lean:
    getTransitions = Timezone.get_transitions (sort by LOCAL time, utc = local − from, DST amounts),
    lookup         = the pytz DstTzInfo built from that table (bisect_right),
    specAt         = RFC 5545: the observance with the latest onset (local − TZOFFSETFROM) not after t,
    parseCal / parseAll / endVtz / useTz = the process-wide zone cache driven by Component.from_ical.
  The zoneinfo path hands the definition to dateutil.tz.tzical (external): it is compared with
  `specAt` by the correspondence run only (level: partial, see MANIFEST).
-/
import ICal.Lemmas.Tz
import ICal.Lemmas.BodiesTz
namespace ICal.C12
open ICal.Tz

/-- the zone object answers at `t` with the offset and name of the RFC observance, and with a zero
    DST amount when that observance is STANDARD -/
def AgreesWithSpec (obs : List Obs) (ts : List Ent) (t : Int) : Prop :=
  ∃ e b, lookup ts t = some e ∧ specAt obs t = some b ∧
    e.utc = b.1 ∧ e.off = b.2.offTo ∧ e.name = b.2.name ∧ (b.2.isDst = false → e.dst = 0)

/-- C12 (interpretation part) at full strength: for every definition with whole-minute offsets,
    names not shared between STANDARD and DAYLIGHT and unambiguous simultaneous onsets, at every
    instant not before the first onset. FALSE on the code (D23): see `sort_witness`. -/
def rfc_onset_full : Prop :=
  ∀ (obs : List Obs) (ts : List Ent), getTransitions obs = some ts →
    WholeMinutes obs → NamesConsistent obs → UniqueOnsets obs →
    ∀ t, (∃ p ∈ specEntries obs, p.1 ≤ t) → AgreesWithSpec obs ts t

/-- If the table that `get_transitions` built is ascending in UTC, the pytz zone object answers
    with the RFC observance at every instant from the first onset on: offset, name, and a zero DST
    amount for STANDARD. -/
theorem lookup_is_spec (obs : List Obs) (ts : List Ent) (hg : getTransitions obs = some ts)
    (hm : WholeMinutes obs) (hn : NamesConsistent obs) (hu : UniqueOnsets obs) (hs : SortedUTC ts)
    (t : Int) (hfirst : ∃ p ∈ specEntries obs, p.1 ≤ t) : AgreesWithSpec obs ts t := by
  obtain ⟨honset, hrow⟩ := table_entries hg hm hn
  obtain ⟨p, hp, hpt⟩ := hfirst
  obtain ⟨ep, hep, hepu⟩ := honset p hp
  obtain ⟨e, hlk, hemem, het, hmax⟩ := lookup_latest hs t ⟨ep, hep, by omega⟩
  obtain ⟨o, ho, hspec, hoff, hname, hdst⟩ := hrow e hemem
  -- the RFC reading exists and names the same instant: each of the two is the latest of the same onsets
  cases hsp : specAt obs t with
  | none => exact absurd het (specAt_none hsp _ hspec)
  | some b =>
    obtain ⟨hb1, hb2, hb3⟩ := specAt_latest hsp
    obtain ⟨eb, hebm, hebu⟩ := honset b hb1
    have h1 : b.1 ≤ e.utc := by rw [← hebu]; exact hmax eb hebm (by omega)
    have h2 : e.utc ≤ b.1 := hb3 _ hspec het
    have heq : e.utc = b.1 := by omega
    obtain ⟨u1, u2, u3⟩ := hu _ hspec _ hb1 heq
    exact ⟨e, b, hlk, hsp, heq, by rw [hoff]; exact u1, by rw [hname]; exact u2,
      fun hd => hdst (by rw [u3]; exact hd)⟩

/-- Under `WellSeparated` sorting by local time IS sorting by instant: the UTC column of the table
    is ascending and a permutation of the onset instants `local − TZOFFSETFROM` of all tuples. -/
theorem local_sort_is_utc_sort (obs : List Obs) (ts : List Ent) (hg : getTransitions obs = some ts)
    (hw : WellSeparated obs) :
    (ts.map Ent.utc).Pairwise (· ≤ ·) ∧
    (ts.map Ent.utc).Perm ((obs.flatMap extractOffsets).map fun c => c.loc - c.osfrom) := by
  rw [getTransitions_utc hg]
  refine ⟨?_, (sortTr_perm _).map _⟩
  rw [List.pairwise_map]
  refine List.Pairwise.imp_of_mem ?_ (sortTr_loc_sorted _)
  intro a b ha hb hab
  obtain ⟨o, ho, l, hl, rfl⟩ := mem_sortedTrs.mp ha
  obtain ⟨o', ho', l', hl', rfl⟩ := mem_sortedTrs.mp hb
  simp only at hab ⊢
  by_cases hlt : l' - roundMin o'.offFrom < l - roundMin o.offFrom
  · have := hw o' ho' l' hl' o ho l hl hlt
    omega
  · omega

/-- Sorting by local time is sorting by instant when any two onsets at different instants are
    further apart than the difference of their TZOFFSETFROMs. -/
theorem local_sort_ok (obs : List Obs) (ts : List Ent) (hg : getTransitions obs = some ts)
    (hw : WellSeparated obs) : SortedUTC ts :=
  (local_sort_is_utc_sort obs ts hg hw).1

/-- C12 (interpretation part) as it holds of the code: the extra hypothesis `WellSeparated` is
    exactly the complement of the finding class `onsets-closer-than-jump`. -/
theorem rfc_onset_partial (obs : List Obs) (ts : List Ent) (hg : getTransitions obs = some ts)
    (hm : WholeMinutes obs) (hn : NamesConsistent obs) (hu : UniqueOnsets obs) (hw : WellSeparated obs)
    (t : Int) (hfirst : ∃ p ∈ specEntries obs, p.1 ≤ t) : AgreesWithSpec obs ts t :=
  lookup_is_spec obs ts hg hm hn hu (local_sort_ok obs ts hg hw) t hfirst

/-- D23: onsets at 00:00Z (+0 → +2), 00:30Z (+2 → −1), 01:00Z (−1 → +0), written in local time -/
def d23 : List Obs :=
  [⟨false, ['A'], 0, 7200, [0]⟩, ⟨false, ['B'], 7200, -3600, [9000]⟩, ⟨false, ['C'], -3600, 0, [0]⟩]

/-- the table `get_transitions` builds for `d23`: UTC column 01:00, 00:00, 00:30 -/
def d23Table : List Ent :=
  [⟨3600, 0, 0, ['C']⟩, ⟨0, 7200, 0, ['A']⟩, ⟨1800, -3600, 0, ['B']⟩]

/-- Without `WellSeparated` the table is not ascending, and at 01:23:20Z the zone object reports
    −01:00 ('B') where RFC 5545 gives +00:00 ('C'). Replayed on the code it fails in both providers. -/
theorem sort_witness :
    getTransitions d23 = some d23Table ∧ ¬ SortedUTC d23Table ∧
    (lookup d23Table 5000).map (fun e => (e.off, e.name)) = some (-3600, ['B']) ∧
    (specAt d23 5000).map (fun b => (b.2.offTo, b.2.name)) = some (0, ['C']) := by
  decide +kernel

/-- the full-strength statement is false of the code -/
theorem rfc_onset_full_false : ¬ rfc_onset_full := by
  intro h
  obtain ⟨hg, _, h3, h5⟩ := sort_witness
  have hu : UniqueOnsets d23 := by unfold UniqueOnsets; decide +kernel
  obtain ⟨e, b, h1, h2, _, h4, _⟩ :=
    h d23 d23Table hg (by decide +kernel) (by decide +kernel) hu 5000 ⟨(0, d23[0]), by decide +kernel, by decide +kernel⟩
  rw [h1] at h3
  rw [h2] at h5
  simp at h3 h5
  omega

/-! ## the zone cache -/

/-- C12 (cache part) at full strength: whatever was parsed before (`c`) and wherever the VTIMEZONE
    stands, every date-time whose TZID the calendar defines (and the provider does not serve) gets
    that definition. FALSE on the code (D15): see the two witnesses. -/
def cache_own_def_full : Prop :=
  ∀ (P : Prov) (c : Cache Nat) (cal : List (Item Nat)), ownDefOK P c cal = true

/-- C12 (cache part) as it holds of the code: when every use of a calendar-defined TZID stands
    after its VTIMEZONE (complement of `tz-definition-after-use`) and no defined id is already
    cached or provider-known (complement of `tz-cache-first-wins`), every such date-time gets the
    calendar's own definition. -/
theorem cache_own_def_partial {δ : Type} [DecidableEq δ] (P : Prov) (c : Cache δ) (cal : List (Item δ))
    (hpos : vtzBeforeUse cal [] cal = true) (hfresh : freshFor P c cal = true) :
    ownDefOK P c cal = true :=
  ownDefGo_ok P c cal cal [] c rfl (fun _ => rfl) hpos hfresh

/-- a cached definition is never replaced: the first calendar that defines an id wins for the process -/
theorem cache_first_wins {δ : Type} (P : Prov) (cal : List (Item δ)) :
    ∀ (c : Cache δ) (k : Str) (d : δ), cacheGet c k = some d → cacheGet (cacheAfter P c cal) k = some d :=
  cacheAfter_keeps P cal

/-- a provider that knows no ids -/
def P0 : Prov := ⟨fun _ => false, fun _ => false⟩
def XA : Str := ['X', '/', 'A']

/-- D15, history: the second calendar defines X/A as definition 2, its date-time gets definition 1 -/
theorem cache_history_witness :
    parseAll P0 ([] : Cache Nat) [[.vtz XA 1, .use XA], [.vtz XA 2, .use XA]] = [[.custom 1], [.custom 1]] ∧
    ownDefOK P0 (cacheAfter P0 ([] : Cache Nat) [.vtz XA 1, .use XA]) [.vtz XA 2, .use XA] = false := by
  decide +kernel

/-- D15, position: a VTIMEZONE after its use is ignored for that date-time (it stays naive) -/
theorem cache_position_witness :
    parseCal P0 ([] : Cache Nat) [.use XA, .vtz XA 1, .use XA] = [.naive, .custom 1] ∧
    ownDefOK P0 ([] : Cache Nat) [.use XA, .vtz XA 1, .use XA] = false := by
  decide +kernel

theorem cache_own_def_full_false : ¬ cache_own_def_full := by
  intro h
  have := h P0 [] [.use XA, .vtz XA 1, .use XA]
  rw [cache_position_witness.2] at this
  exact Bool.noConfusion this

/-! ## clause by clause: rounding, `set(transtimes)`, the sort, the DST amount, names, re-parsing -/

/-- `_extract_offsets` rounds TZOFFSETFROM/TZOFFSETTO to the minute: a whole-minute offset (the
    domain of the property) is kept, any other moves by at most 30 s (half a minute goes up) and the
    result is a whole minute. -/
theorem offsets_rounded_to_minute (x : Int) :
    (x % 60 = 0 → roundMin x = x) ∧ roundMin x % 60 = 0 ∧ x - 30 < roundMin x ∧ roundMin x ≤ x + 30 :=
  ⟨roundMin_id, roundMin_near x⟩

example : roundMin 3600 = 3600 ∧ roundMin 3630 = 3660 ∧ roundMin 3629 = 3600 ∧ roundMin (-3630) = -3600 := by decide +kernel

/-- `transitions.sort()`: the list `get_transitions` works on is a permutation of the extracted
    tuples, ascending in the tuple order (local time, then from, to, name), and it is the only such
    list — any correct sort gives it. -/
theorem sort_is_the_sorted_permutation (obs : List Obs) :
    (sortedTrs obs).Perm (obs.flatMap extractOffsets) ∧ (sortedTrs obs).Pairwise TrLe ∧
    ∀ l : List Tr, l.Perm (obs.flatMap extractOffsets) → l.Pairwise TrLe → l = sortedTrs obs := by
  refine ⟨sortTr_perm _, sortTr_sorted _, ?_⟩
  intro l hp hs
  exact List.Perm.eq_of_pairwise (le := TrLe) (fun a b _ _ h1 h2 => trLe_antisymm h1 h2) hs (sortTr_sorted _)
    (hp.trans (sortTr_perm _).symm)

/-- `set(transtimes)`: the whole result of `get_transitions` depends only on the SET of onsets of
    each observance — listing them in another order or several times (an RDATE repeated, DTSTART
    also among the RDATEs) changes nothing. -/
theorem onset_set_semantics (f : List Int → List Int) (hf : ∀ l x, x ∈ f l ↔ x ∈ l) (obs : List Obs) :
    getTransitions (obs.map fun o => { o with onsets := f o.onsets }) = getTransitions obs := by
  unfold getTransitions
  rw [sortedTrs_onset_sets f hf obs]
  have : dstOf (obs.map fun o => { o with onsets := f o.onsets }) = dstOf obs := by
    funext nm; exact dstOf_onset_sets f obs nm
  rw [this]

example : ∀ (l : List Int) x, x ∈ (l ++ l.reverse) ↔ x ∈ l := by intro l x; simp

/-- The AssertionError of `get_transitions`, exactly: it is raised iff there is at least one
    transition and the `dst` dict marks the name of every transition as DAYLIGHT. -/
theorem assertion_error_iff (obs : List Obs) :
    getTransitions obs = none ↔ sortedTrs obs ≠ [] ∧ ∀ c ∈ sortedTrs obs, dstOf obs c.name = true := by
  unfold getTransitions
  rw [infoGo_none]
  simp

/-- ... and in terms of the definition, when no TZNAME is shared by a STANDARD and a DAYLIGHT
    observance: iff some observance has an onset and every observance that has one is DAYLIGHT
    (finding `daylight-only-definition`; with a shared name see `tzname-shared-by-standard-and-daylight`). -/
theorem assertion_error_iff_daylight_only (obs : List Obs) (hn : NamesConsistent obs) :
    getTransitions obs = none ↔
      (∃ o ∈ obs, o.onsets ≠ []) ∧ ∀ o ∈ obs, o.onsets ≠ [] → o.isDst = true := by
  rw [assertion_error_iff]
  constructor
  · rintro ⟨hne, hall⟩
    constructor
    · obtain ⟨c, hc⟩ := List.exists_mem_of_ne_nil _ hne
      obtain ⟨o, ho, l, hl, _⟩ := mem_sortedTrs.mp hc
      exact ⟨o, ho, List.ne_nil_of_mem hl⟩
    · intro o ho hons
      obtain ⟨l, hl⟩ := List.exists_mem_of_ne_nil _ hons
      have := hall _ (mem_sortedTrs.mpr ⟨o, ho, l, hl, rfl⟩)
      simpa [dstOf_eq hn ho] using this
  · rintro ⟨⟨o, ho, hons⟩, hall⟩
    constructor
    · obtain ⟨l, hl⟩ := List.exists_mem_of_ne_nil _ hons
      exact List.ne_nil_of_mem (mem_sortedTrs.mpr ⟨o, ho, l, hl, rfl⟩)
    · intro c hc
      obtain ⟨o', ho', l, hl, rfl⟩ := mem_sortedTrs.mp hc
      simp only
      rw [dstOf_eq hn ho']
      exact hall o' ho' (List.ne_nil_of_mem hl)

example : getTransitions [⟨true, ['S'], 3600, 7200, [0]⟩] = none ∧
    NamesConsistent [⟨true, ['S'], 3600, 7200, [0]⟩] := by decide +kernel

/-- The DST amount of every row, by cases. Let the sorted tuple list be `pre ++ cur :: post` and
    `dst` the name-keyed dict. The row at that position has `cur`'s instant, TZOFFSETTO and name, and
    * STANDARD `cur`: amount 0;
    * DAYLIGHT `cur`, nearest earlier STANDARD tuple `x` (`pre = a ++ x :: b`, `b` all DAYLIGHT) with a
      different TZOFFSETTO: `cur.osto − x.osto`;
    * DAYLIGHT `cur`, `x` has the SAME TZOFFSETTO, or there is no earlier STANDARD tuple: the nearest
      later STANDARD tuple `y` decides, `cur.osto − y.osto` (`timedelta(0)` is falsy: searched again);
    * DAYLIGHT `cur`, `x` has the same TZOFFSETTO and no STANDARD tuple follows: 0. -/
theorem dst_amount_spec (obs : List Obs) (ts : List Ent) (hg : getTransitions obs = some ts)
    (pre post : List Tr) (cur : Tr) (hsplit : sortedTrs obs = pre ++ cur :: post) :
    ∃ e, ts[pre.length]? = some e ∧ e.utc = cur.loc - cur.osfrom ∧ e.off = cur.osto ∧ e.name = cur.name ∧
    (dstOf obs cur.name = false → e.dst = 0) ∧
    (dstOf obs cur.name = true → ∀ a x b, pre = a ++ x :: b → (∀ y ∈ b, dstOf obs y.name = true) →
      dstOf obs x.name = false →
      (cur.osto ≠ x.osto → e.dst = cur.osto - x.osto) ∧
      (cur.osto = x.osto →
        (∀ a' y b', post = a' ++ y :: b' → (∀ z ∈ a', dstOf obs z.name = true) → dstOf obs y.name = false →
          e.dst = cur.osto - y.osto) ∧
        ((∀ z ∈ post, dstOf obs z.name = true) → e.dst = 0))) ∧
    (dstOf obs cur.name = true → (∀ y ∈ pre, dstOf obs y.name = true) →
      ∀ a' y b', post = a' ++ y :: b' → (∀ z ∈ a', dstOf obs z.name = true) → dstOf obs y.name = false →
        e.dst = cur.osto - y.osto) := by
  unfold getTransitions at hg
  rw [hsplit] at hg
  obtain ⟨d, hd, hnth⟩ := infoGo_nth hg
  rw [List.append_nil] at hd
  unfold dstOffset at hd
  refine ⟨_, hnth, rfl, rfl, rfl, fun hc => ?_, fun hc a x b hpre hb hx => ?_, fun hc hpre a' y b' hp ha' hy => ?_⟩
  · simpa [hc] using hd.symm
  · subst hpre
    rw [firstStd_reverse_split hb hx] at hd
    refine ⟨fun hne => ?_, fun heq => ⟨fun a' y b' hp ha' hy => ?_, fun hp => ?_⟩⟩
    · have : cur.osto - x.osto ≠ 0 := by omega
      simpa [hc, this] using hd.symm
    · subst hp
      simpa [hc, heq, firstStd_cons_split hc ha' hy] using hd.symm
    · simpa [hc, heq, firstStd_none.mpr (List.forall_mem_cons.mpr ⟨hc, hp⟩)] using hd.symm
  · subst hp
    simpa [hc, firstStd_reverse_none hpre, firstStd_cons_split hc ha' hy] using hd.symm

/-- two winters and two summers: the hypotheses of `dst_amount_spec` at the first summer onset -/
def cet4 : List Obs :=
  [⟨false, ['C', 'E', 'T'], 7200, 3600, [941338800, 972788400]⟩,
   ⟨true, ['C', 'E', 'S', 'T'], 3600, 7200, [954036000, 985485600]⟩]

example : (getTransitions cet4).isSome = true ∧ sortedTrs cet4 = [⟨941338800, 7200, 3600, ['C', 'E', 'T']⟩] ++
    ⟨954036000, 3600, 7200, ['C', 'E', 'S', 'T']⟩ ::
      [⟨972788400, 7200, 3600, ['C', 'E', 'T']⟩, ⟨985485600, 3600, 7200, ['C', 'E', 'S', 'T']⟩] := by decide +kernel

/-- The name loop: every component keeps its fields, an explicit TZNAME verbatim; the names
    generated for components without TZNAME are pairwise distinct (and distinct from the names
    `taken` by earlier generated ones); when the candidates `zone_dtstart_from_to` are already
    pairwise distinct they are used as they are. Explicit names never enter the `tznames` set. -/
theorem names_resolved (os : List ObsIn) (taken : List Str) :
    (resolveNames os taken).length = os.length ∧
    (∀ p ∈ os.zip (resolveNames os taken), Resolved p.1 p.2) ∧
    (genNames os (resolveNames os taken)).Nodup ∧
    (∀ n ∈ genNames os (resolveNames os taken), n ∉ taken) ∧
    ((autosOf os).Nodup → (∀ n ∈ autosOf os, n ∉ taken) → genNames os (resolveNames os taken) = autosOf os) :=
  ⟨resolveNames_length os taken, resolveNames_fields os taken, (genNames_fresh os taken).1,
    (genNames_fresh os taken).2, genNames_eq_autos os taken⟩

/-- two name-less components with the same candidate: the second gets `_1` -/
example : (resolveNames [⟨false, none, ['Z'], 0, 0, [0]⟩, ⟨true, some ['D'], [], 0, 3600, [5]⟩,
    ⟨false, none, ['Z'], 3600, 0, [9]⟩] []).map (·.name) = [['Z'], ['D'], ['Z', '_', '1']] := by decide +kernel

/-- Parsing a calendar again: the cache after the second parse is the cache after the first
    (`cacheAfter` is idempotent), so from the second parse on the answers never change. -/
theorem cache_reparse_idempotent {δ : Type} (P : Prov) (c : Cache δ) (cal : List (Item δ)) :
    cacheAfter P (cacheAfter P c cal) cal = cacheAfter P c cal :=
  (parse_settled fun _ _ h => cacheAfter_settles c h).1

/-- From the second parse of the same calendar on, every date-time is answered from one fixed
    cache, whatever the position of the VTIMEZONEs: the `n` further parses all give
    `useTz` of the settled cache for each TZID use, in file order. -/
theorem reparse_position_independent {δ : Type} (P : Prov) (c : Cache δ) (cal : List (Item δ)) (n : Nat) :
    parseAll P (cacheAfter P c cal) (List.replicate n cal) =
      List.replicate n ((usesOf cal).map (useTz P (cacheAfter P c cal))) := by
  induction n with
  | zero => rfl
  | succ n ih =>
    simp only [List.replicate_succ, parseAll]
    rw [cache_reparse_idempotent, ih,
      (parse_settled fun _ _ h => cacheAfter_settles c h).2]

/-- ... while the FIRST parse may differ from all later ones (finding `tz-definition-after-use`):
    the date-time before its VTIMEZONE is naive the first time and zoned every later time. -/
theorem reparse_differs_witness :
    parseAll P0 ([] : Cache Nat) [[.use XA, .vtz XA 1], [.use XA, .vtz XA 1], [.use XA, .vtz XA 1]] =
      [[.naive], [.custom 1], [.custom 1]] := by decide +kernel

/-! Non-vacuity: a two-observance DST definition satisfies every hypothesis of `rfc_onset_partial`,
    and a calendar with the VTIMEZONE first satisfies those of `cache_own_def_partial`. -/
def cetPair : List Obs :=
  [⟨false, ['C', 'E', 'T'], 7200, 3600, [941338800, 972788400]⟩,
   ⟨true, ['C', 'E', 'S', 'T'], 3600, 7200, [954036000, 985485600]⟩]

example : (getTransitions cetPair).isSome = true := by decide +kernel
example : WholeMinutes cetPair := by decide +kernel
example : NamesConsistent cetPair := by decide +kernel
example : WellSeparated cetPair := by decide +kernel
example : (specAt cetPair 960000000).map (fun b => b.2.name) = some ['C', 'E', 'S', 'T'] := by decide +kernel
example : vtzBeforeUse [Item.vtz XA 1, .use XA] [] [Item.vtz XA 1, .use XA] = true ∧
    freshFor P0 ([] : Cache Nat) [Item.vtz XA 1, .use XA] = true := by decide +kernel

/-- The second half of `Timezone.get_transitions` (tools/py2lean.py, Gen/BodiesTz.lean) - everything after
    `transitions.sort()`: `transition_times`, the loop over `enumerate(transitions)` with the searches backwards and
    forwards by index, `if not dst_offset` (true for `False` and for `timedelta(0)`), `assert dst_offset is not False` -
    regenerated from the source and run on the model's sorted transitions with the model's `dst` is the model's `infoGo`:
    the same rows, and AssertionError exactly where the model has none -/
theorem body_get_transitions_info (dst : Str → Bool) (trs : List Tr) :
    Bodies.transitionsInfoP dst trs = Bodies.infoView (infoGo dst [] trs) :=
  Bodies.transitionsInfoP_eq dst trs

end ICal.C12
