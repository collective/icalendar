/-
  C01 — parse ∘ serialise is the identity on canonical trees: the tree layer (L4).
  `items sorted t` is `Component.property_items(recursive=True, sorted)` (Model/Ser.lean);
  `pstep`/`prun`/`parseLines` are the line loop of `Component.from_ical` (Model/Parse.lean);
  `dec` abstracts the typed decoders, so every statement holds for every decoder.

  The line layer is ABSTRACT here: `ln : Item → Str` is any function from items to content lines
  of which `LineOK ln it` holds for the items of the tree.  That is what C05 / C08 prove of
  `Contentline.from_parts` for hazard-free items; `lineOK_itemLine` below instantiates `ln` with
  the serialiser's own `itemLine`, and `parse_toIcal` composes all layers (C06 folding included).

  Property theorems only; the definitions `LineOK`, `readValue`, `NameOK`, `ValOK`, `EntryOK`,
  `PropsOK`, `WF`, `TzOK`, `tzArg`, `Comp.toP`, `sortedProps`, `sortedTree`, `attach`, `attachL` and the
  helper lemmas are in ICal/Lemmas/Parse.lean.  The three small definitions of the concrete line
  layer (`lnOf`, `rawRead`, `ItemOK`) and the two equations of `lnOf` (`itemLine_ok`, `lnOf_eq`) are
  stated here, next to the C05 / C06 results they use.

  `LineOK ln it`: `ln it ≠ []`, `parts (ln it)` reads back `it.name` and `it.params`, and the
  value text the loop uses (`readValue`: the `parts()` value for BEGIN / END and non-TEXT
  properties, `raw_value()` for properties whose class is vText / vCategory) is `it.text`.
  `lineOK_of_parts_raw` (Lemmas) gives it from `parts = some (name, params, text)` and
  `rawValue = text`.

  `tzok c` abstracts "building / caching the time zone object of the VTIMEZONE `c` does not
  fail" (`tzp.cache_timezone_component` in the END branch of `from_ical`); the round trip needs
  `TzOK tzok b t`: `tzok` holds of every VTIMEZONE of the tree that has a TZID (as the parser
  sees it, i.e. in serialisation order).

  Domain `WF dec t` (every component of the tree):
  * the component name is upper-cased and unchanged by TEXT escaping (it is written as a TEXT
    value on the BEGIN line and read back through `.upper()`);
  * every stored property name is upper-cased (always true of a `CaselessDict`), is not BEGIN /
    END (such a "property" would be read as structure) and is not FREEBUSY (the parser splits a
    FREEBUSY value on commas into several values: excluded here);
  * property names are pairwise distinct (a dictionary), every entry has at least one value, and
    an entry holds a list exactly when it has two values or more — a one-element list is
    indistinguishable from a scalar after serialisation (recorded finding D25);
  * every value of property `k` is an instance of `for_property(k)` and a fixpoint of its
    decoder: `dec (forProperty k) text tz = some text` with the `tz` the loop passes.
-/
import ICal.Lemmas.Parse
import ICal.Lemmas.Line
import ICal.Props.C06
import ICal.Props.C09
import ICal.Lemmas.BodiesParse
namespace ICal.C01

/-- Key lemma: from any running state, the lines of a well-formed tree push the tree — with the
    entries of every component in serialisation order and empty error lists — onto the parent's
    subcomponents (or onto the result list when no component is open). Unbounded in depth, width,
    number of properties and values. -/
theorem run_items (tzok : Comp → Bool) (dec : Dec) (ln : Item → Str) (b : Bool) (t : Comp) (st : PState)
    (hwf : WF dec t) (htz : TzOK tzok b t) (hl : ∀ it ∈ items b t, LineOK ln it) (hs : st.stopped = false) :
    prun tzok dec st ((items b t).map ln) = some (attach st (sortedTree b t).toP) :=
  ICal.run_items tzok dec ln b t st hwf htz hl hs

/-- The same for a sequence of trees. -/
theorem run_itemsList (tzok : Comp → Bool) (dec : Dec) (ln : Item → Str) (b : Bool) (ts : List Comp) (st : PState)
    (hwf : WFs dec ts) (htz : TzOKs tzok b ts) (hl : ∀ it ∈ itemsList b ts, LineOK ln it) (hs : st.stopped = false) :
    prun tzok dec st ((itemsList b ts).map ln) = some (attachL st (Comp.toPs (sortedTrees b ts))) :=
  ICal.run_itemsList tzok dec ln b ts st hwf htz hl hs

/-- `from_ical(lines of t)` returns exactly one component, the tree in serialisation order, and
    records no error. -/
theorem parse_ser_lines (tzok : Comp → Bool) (dec : Dec) (ln : Item → Str) (b : Bool) (t : Comp)
    (hwf : WF dec t) (htz : TzOK tzok b t) (hl : ∀ it ∈ items b t, LineOK ln it) :
    parseLines tzok dec false ((items b t).map ln) = some ([sortedTree b t], []) := by
  unfold parseLines parseLinesP
  rw [run_items tzok dec ln b t PState.init hwf htz hl rfl]
  simp [attach, PState.init, PComp.toComps, PComp.errLogs, toComp_toP, errLog_toP]

/-- `sorted=False`: the tree itself comes back, entry order included. -/
theorem parse_ser_lines_unsorted (tzok : Comp → Bool) (dec : Dec) (ln : Item → Str) (t : Comp)
    (hwf : WF dec t) (htz : TzOK tzok false t) (hl : ∀ it ∈ items false t, LineOK ln it) :
    parseLines tzok dec false ((items false t).map ln) = some ([t], []) := by
  rw [parse_ser_lines tzok dec ln false t hwf htz hl, sortedTree_false dec t hwf]

/-- `multiple=True`: a stream of several top-level components comes back in order. -/
theorem parse_ser_lines_multiple (tzok : Comp → Bool) (dec : Dec) (ln : Item → Str) (b : Bool) (ts : List Comp)
    (hwf : WFs dec ts) (htz : TzOKs tzok b ts) (hl : ∀ it ∈ itemsList b ts, LineOK ln it) :
    parseLines tzok dec true ((itemsList b ts).map ln) = some (sortedTrees b ts, []) := by
  unfold parseLines parseLinesP
  rw [run_itemsList tzok dec ln b ts PState.init hwf htz hl rfl]
  simp [PState.init, attachL_init, toComps_toPs, errLogs_toPs]

/-- What `sortedTree` is: the same entries (a permutation), visited in the order of
    `sorted_keys()` / `keys()`. -/
theorem sorted_entries (b : Bool) (n : Str) (props : List Entry) (h : (props.map (·.name)).Nodup) :
    (sortedProps b n props).map (·.name) = propNames b n props ∧ (sortedProps b n props).Perm props :=
  ⟨map_name_sortedProps b n props, sortedProps_perm b n props h⟩

/-- The canonical order is idempotent (for every tree, no hypothesis): parsing the serialisation
    of a parsed tree cannot reorder it again. -/
theorem reparse_fixpoint (b : Bool) (t : Comp) : sortedTree b (sortedTree b t) = sortedTree b t :=
  sortedTree_idem b t

/-- The parsed tree serialises to the same items (hence the same lines, the same bytes) as the
    original tree (for every tree, no hypothesis). -/
theorem reserialise_same (b : Bool) (t : Comp) : items b (sortedTree b t) = items b t :=
  items_sortedTree b t

/-- The parsed tree is again in the domain. -/
theorem parsed_wf (dec : Dec) (b : Bool) (t : Comp) (hwf : WF dec t) : WF dec (sortedTree b t) :=
  WF_sortedTree dec b t hwf

/-- ... also with respect to the time zone hypothesis. -/
theorem parsed_tzok (tzok : Comp → Bool) (b : Bool) (t : Comp) (h : TzOK tzok b t) :
    TzOK tzok b (sortedTree b t) :=
  TzOK_sortedTree tzok b t h

/-- The time zone hypothesis is void for a provider that can build every time zone, and for a
    tree without a VTIMEZONE that has a TZID (`TzOK` only speaks about those). -/
theorem tzok_of_total (b : Bool) (t : Comp) : TzOK (fun _ => true) b t := TzOK_true b t

/-- Stability: parse ∘ serialise ∘ parse ∘ serialise = parse ∘ serialise on the tree level —
    the second round trip returns the tree of the first, unchanged. -/
theorem parse_ser_stable (tzok : Comp → Bool) (dec : Dec) (ln : Item → Str) (b : Bool) (t : Comp)
    (hwf : WF dec t) (htz : TzOK tzok b t) (hl : ∀ it ∈ items b t, LineOK ln it) :
    ∃ t', parseLines tzok dec false ((items b t).map ln) = some ([t'], []) ∧
      items b t' = items b t ∧
      parseLines tzok dec false ((items b t').map ln) = some ([t'], []) := by
  refine ⟨sortedTree b t, parse_ser_lines tzok dec ln b t hwf htz hl, items_sortedTree b t, ?_⟩
  rw [items_sortedTree b t]
  exact parse_ser_lines tzok dec ln b t hwf htz hl

/-! ### the concrete line layer: `ln` := `Component.content_line` -/

/-- the line `content_line` builds for an item ("" when `from_parts` refuses) -/
def lnOf (b : Bool) (it : Item) : Str :=
  match itemLine b it with
  | .ok s => s
  | .error _ => []

/-- the loop reads the value of this property with `raw_value()` (TEXT-typed properties) -/
def rawRead (name : Str) : Bool :=
  decide (name ≠ nBEGIN) && decide (name ≠ nEND) && Gen.fromIcalTextRaw && textKinds.contains (forProperty name)

/-- an item whose line reads back exactly (C05 `parts_fromParts`, `rawValue_fromParts`): NAME
    token; parameters in the C08 domain, hazard-free (D02 / D03) and already in the form the
    parser stores (`canon`: keys sorted, a one-element list as a string); value text without raw
    line feed, and hazard-free unless the property is TEXT-typed (read with `raw_value()`, so
    `\,` `\;` `\\` and `%2C` in a TEXT value are inside the domain) -/
def ItemOK (it : Item) : Prop :=
  validToken it.name = true ∧ ParamDomain it.params ∧ ParamsHazardless it.params ∧
  canon it.params = it.params ∧ LF ∉ it.text ∧ (rawRead it.name = true ∨ Hazardless it.text)

instance (it : Item) : Decidable (ItemOK it) := by unfold ItemOK; infer_instance

private theorem itemLine_ok (it : Item) (h : ItemOK it) :
    itemLine true it = .ok (lineText it.name it.params it.text true) :=
  fromParts_ok it.name it.params it.text true h.1 h.2.1 h.2.2.2.2.1

private theorem lnOf_eq (it : Item) (h : ItemOK it) : lnOf true it = lineText it.name it.params it.text true := by
  rw [lnOf, itemLine_ok it h]

/-- a serialised line of the domain is a real content line: not empty, no raw line feed, and it
    starts with a NAME character (not SP, HT or a byte-order mark) -/
theorem lnOf_real_line (it : Item) (h : ItemOK it) :
    lnOf true it ≠ [] ∧ LF ∉ lnOf true it ∧ (lnOf true it).head? ≠ some SP ∧
      (lnOf true it).head? ≠ some HT ∧ (lnOf true it).head? ≠ some BOM := by
  rw [lnOf_eq it h]
  have hlf := lineText_noLF it.name it.params it.text true h.1 h.2.1 h.2.2.2.2.1
  have hn := h.1
  cases hname : it.name with
  | nil => rw [hname] at hn; cases hn
  | cons c cs =>
    rw [hname] at hlf hn
    have hc := validToken_tok _ hn c List.mem_cons_self
    have hhead : (lineText (c :: cs) it.params it.text true).head? = some c := by
      unfold lineText; split <;> rfl
    have other : ∀ x, ¬ (isAsciiWord x || Gen.nameExtra.contains x) = true → some c ≠ some x :=
      fun x hx h0 => hx (Option.some.inj h0 ▸ hc)
    rw [hhead]
    refine ⟨fun h0 => ?_, hlf, other SP (by decide), other HT (by decide), other BOM (by decide)⟩
    rw [h0] at hhead
    cases hhead

/-- C05 instantiates the abstract line layer. -/
theorem lineOK_itemLine (it : Item) (h : ItemOK it) : LineOK (lnOf true) it := by
  have hne := (lnOf_real_line it h).1
  obtain ⟨hn, hp, hpz, hc, hv, hz⟩ := h
  have hraw := rawValue_lineText it.name it.params it.text true hn hp
  unfold LineOK
  rw [lnOf_eq it ⟨hn, hp, hpz, hc, hv, hz⟩] at hne ⊢
  rw [parts_lineText it.name it.params it.text hn hp hpz]
  refine ⟨hne, by rw [hc]; rfl, ?_⟩
  simp only [Option.map_some, Option.some.injEq, readValue, hraw]
  rcases hz with hz | hz
  · simp only [rawRead, Bool.and_eq_true, decide_eq_true_eq] at hz
    rw [if_neg (by simp [hz.1.1.1, hz.1.1.2]), if_pos (by rw [hz.1.2, hz.2]; rfl)]
  · rw [ICal.escapeString_id it.text hz.1, ICal.unescapeString_id it.text hz.2]
    simp

/-- `content_lines()` of a tree of the domain succeeds and gives the lines `lnOf`. -/
theorem contentLines_ok (t : Comp) (h : ∀ it ∈ items true t, ItemOK it) :
    contentLines true t = .ok ((items true t).map (lnOf true)) := by
  unfold contentLines
  generalize items true t = its at h
  induction its with
  | nil => rfl
  | cons it its ih =>
    rw [List.mapM_cons, itemLine_ok it (h it List.mem_cons_self), ih (fun x hx => h x (List.mem_cons_of_mem _ hx)),
      List.map_cons, lnOf_eq it (h it List.mem_cons_self)]
    rfl

private theorem parse_lnOf (tzok : Comp → Bool) (dec : Dec) (t : Comp) (hwf : WF dec t) (htz : TzOK tzok true t)
    (h : ∀ it ∈ items true t, ItemOK it) :
    parseLines tzok dec false ((items true t).map (lnOf true)) = some ([sortedTree true t], []) :=
  parse_ser_lines tzok dec (lnOf true) true t hwf htz (fun it hit => lineOK_itemLine it (h it hit))

/-- L2–L4 composed: `from_ical` of the content lines of a tree of the domain returns the tree
    (in canonical order) and no error. -/
theorem parse_contentLines (tzok : Comp → Bool) (dec : Dec) (t : Comp) (hwf : WF dec t) (htz : TzOK tzok true t) (h : ∀ it ∈ items true t, ItemOK it) :
    ∃ ls, contentLines true t = .ok ls ∧ parseLines tzok dec false ls = some ([sortedTree true t], []) :=
  ⟨_, contentLines_ok t h, parse_lnOf tzok dec t hwf htz h⟩

/-- L1–L4 composed (C06 folding, C05 / C08 lines, this file's tree layer): `to_ical()` of a tree
    of the domain succeeds, and `from_ical` of that text returns the tree (in canonical order)
    and records no error. -/
theorem parse_toIcal (tzok : Comp → Bool) (dec : Dec) (t : Comp) (hwf : WF dec t) (htz : TzOK tzok true t) (h : ∀ it ∈ items true t, ItemOK it) :
    ∃ text, toIcal true t = .ok text ∧ parseText tzok dec false text = some ([sortedTree true t], []) := by
  refine ⟨linesToIcal ((items true t).map (lnOf true)), ?_, ?_⟩
  · unfold toIcal; rw [contentLines_ok t h]; rfl
  · unfold parseText
    rw [ICal.C06.lines_roundtrip]
    · exact parse_lnOf tzok dec t hwf htz h
    · intro l hl
      obtain ⟨it, hit, rfl⟩ := List.mem_map.mp hl
      exact lnOf_real_line it (h it hit)

/-! ### first parse of well-formed text in any layout (with C09) -/

/-- First-parse exactness, any physical layout: take a tree of the domain and write its content
    lines down in ANY physical form `ps` — every line cut anywhere into a first segment and
    continuation segments, each continuation preceded by its own fold separator (CR LF or LF,
    then SP or HT), every line ended by CR LF or by LF — not only the layout `to_ical()` chooses.
    `from_ical` of that text returns exactly the tree the text denotes (entries in canonical
    order) and records no error. (`p.ok` contains that the logical line has no CR, see C09.) -/
theorem parse_any_layout (tzok : Comp → Bool) (dec : Dec) (t : Comp) (hwf : WF dec t)
    (htz : TzOK tzok true t) (h : ∀ it ∈ items true t, ItemOK it)
    (ps : List PhysLine) (hps : ∀ p ∈ ps, p.ok)
    (hlog : ps.map PhysLine.logical = (items true t).map (lnOf true)) :
    parseText tzok dec false (physText ps) = some ([sortedTree true t], []) := by
  unfold parseText
  rw [ICal.C09.physical_lines_invariant ps hps, hlog]
  exact parse_lnOf tzok dec t hwf htz h

/-- a serialised line of the domain without CR is a well-formed line in the sense of C09 -/
theorem lnOf_wfLine (it : Item) (h : ItemOK it) (hcr : CR ∉ lnOf true it) : WFLine (lnOf true it) := by
  obtain ⟨h1, h2, h3, h4, h5⟩ := lnOf_real_line it h
  exact ⟨⟨h1, h2, h3, h4⟩, h5, hcr⟩

/-- The same through every insignificant rewrite (C09 `parse_invariant`): the lines may be any
    case variant of the tree's content lines (BEGIN / END, component names, property names in any
    letter case; parameter names are upper-cased by `parts()`), written in any physical layout
    `ps`, and the text may then go through any sequence `rs` of text rewrites (CR LF ↦ LF, one
    byte-order mark, trailing blank lines, further folds).  Extra hypothesis, explicit: no content
    line holds a CR (needed by the LF rewrite and LF-only folds, see C09 `lf_needs_hypothesis`). -/
theorem parse_any_text (tzok : Comp → Bool) (dec : Dec) (t : Comp) (hwf : WF dec t)
    (htz : TzOK tzok true t) (h : ∀ it ∈ items true t, ItemOK it)
    (hcr : ∀ it ∈ items true t, CR ∉ lnOf true it)
    (ps : List PhysLine) (rs : List Rewrite) (hps : ∀ p ∈ ps, p.ok)
    (hcv : Pointwise CaseVariant ((items true t).map (lnOf true)) (ps.map PhysLine.logical))
    (hc : rs.countP Rewrite.isBOM ≤ 1) :
    parseText tzok dec false (applyAll rs (physText ps)) = some ([sortedTree true t], []) := by
  have hls : ∀ l ∈ (items true t).map (lnOf true), WFLine l := by
    intro l hl
    obtain ⟨it, hit, rfl⟩ := List.mem_map.mp hl
    exact lnOf_wfLine it (h it hit) (hcr it hit)
  rw [ICal.C09.parse_invariant tzok dec false _ ps rs hls hps hcv hc]
  unfold parseText
  rw [linesFromIcal_body _ hls]
  exact parse_lnOf tzok dec t hwf htz h

/-! ### non-vacuity: a calendar with VERSION, an event with SUMMARY, two ATTENDEEs (one with
    parameters), a nested alarm; the identity decoder. -/

private def decId : Dec := fun _ t _ => some t
private def vtext (s : String) : Val := ⟨"vText".toList, s.toList, []⟩
private def sample : Comp :=
  .mk "VCALENDAR".toList [⟨"VERSION".toList, false, [vtext "2.0"]⟩]
    [.mk "VEVENT".toList
      [⟨"ATTENDEE".toList, true,
          [⟨"vCalAddress".toList, "mailto:a@example.com".toList, [("CN".toList, .one "A, B".toList)]⟩,
           ⟨"vCalAddress".toList, "mailto:b@example.com".toList, []⟩]⟩,
       ⟨"SUMMARY".toList, false, [vtext "x\\, y"]⟩]
      [.mk "VALARM".toList [⟨"ACTION".toList, false, [vtext "DISPLAY"]⟩] []]]

private theorem sample_wf : WF decId sample := by
  simp only [sample, vtext, WF, WFs, and_true]
  repeat rw [String.toList_ofList]
  decide +kernel
private theorem sample_itemOK : ∀ it ∈ items true sample, ItemOK it := by
  simp only [sample, vtext]
  repeat rw [String.toList_ofList]
  decide +kernel
private theorem sample_noCR : ∀ it ∈ items true sample, CR ∉ lnOf true it := by
  simp only [sample, vtext]
  repeat rw [String.toList_ofList]
  decide +kernel
private theorem sample_items :
    items true sample = beginItem "VCALENDAR".toList :: (items true sample).drop 1 := by
  rw [sample, items]
  rfl

example : WF decId sample := sample_wf
example : ∀ it ∈ items true sample, ItemOK it := sample_itemOK
example : ∀ it ∈ items true sample, LineOK (lnOf true) it :=
  fun it hit => lineOK_itemLine it (sample_itemOK it hit)
/-- the event's entries are reordered (SUMMARY is in VEVENT's canonical order, ATTENDEE is not) -/
example : (sortedTree true sample).subs.map (fun c => c.props.map (·.name)) =
    [["SUMMARY".toList, "ATTENDEE".toList]] := by decide +kernel
/-- the theorem applies -/
example : parseLines (fun _ => true) decId false ((items true sample).map (lnOf true)) =
    some ([sortedTree true sample], []) :=
  parse_ser_lines (fun _ => true) decId (lnOf true) true sample sample_wf (TzOK_true true sample)
    (fun it hit => lineOK_itemLine it (sample_itemOK it hit))
/-- and, independently, evaluation of the model gives that result (`Comp` has no decidable
    equality: compared through the unsorted item stream, which shows names, values, parameters,
    nesting and order) -/
example : (parseLines (fun _ => true) decId false ((items true sample).map (lnOf true))).map
      (fun r => (r.1.map (items false), r.2)) = some ([items false (sortedTree true sample)], []) := by
  simp only [sample, vtext]
  repeat rw [String.toList_ofList]
  decide +kernel
/-- no content line of the sample holds a CR -/
example : ∀ it ∈ items true sample, CR ∉ lnOf true it := sample_noCR
/-- `parse_any_layout` applies to a layout `to_ical()` never produces: every line ended by a bare
    LF, and the first line folded with LF HT after `BEG` -/
example : parseText (fun _ => true) decId false
    (physText (⟨"BEG".toList, [([LF, HT], "IN:VCALENDAR".toList)], [LF]⟩ ::
      ((items true sample).drop 1).map (fun it => ⟨lnOf true it, [], [LF]⟩))) =
    some ([sortedTree true sample], []) := by
  have hbegin : beginItem "VCALENDAR".toList ∈ items true sample := by
    rw [sample_items]
    exact List.mem_cons_self
  have hfirst : PhysLine.logical ⟨"BEG".toList, [([LF, HT], "IN:VCALENDAR".toList)], [LF]⟩ =
      lnOf true (beginItem "VCALENDAR".toList) := by decide +kernel
  apply parse_any_layout (fun _ => true) decId sample sample_wf (TzOK_true true sample) sample_itemOK
  · intro p hp
    rcases List.mem_cons.mp hp with rfl | hp
    · refine ⟨by decide, ?_, Or.inr rfl, ?_⟩
      · intro q hq
        simp only [List.mem_cons, List.not_mem_nil, or_false] at hq
        subst hq
        exact foldSep_lf_ht
      · rw [hfirst]
        exact lnOf_wfLine _ (sample_itemOK _ hbegin) (sample_noCR _ hbegin)
    · obtain ⟨it, hit, rfl⟩ := List.mem_map.mp hp
      have hit' : it ∈ items true sample := List.mem_of_mem_drop hit
      refine ⟨(lnOf_real_line it (sample_itemOK it hit')).1, by simp, Or.inr rfl, ?_⟩
      simpa [PhysLine.logical] using lnOf_wfLine it (sample_itemOK it hit') (sample_noCR it hit')
  · conv => rhs; rw [sample_items]
    simp only [List.map_cons, List.map_map, hfirst]
    congr 1
    apply List.map_congr_left
    intro it _
    simp [PhysLine.logical]

/-- `x\, y` in SUMMARY (TEXT) is inside the domain; in a URL it is not (D02) -/
example : ItemOK ⟨"SUMMARY".toList, "x\\, y".toList, []⟩ ∧ ¬ ItemOK ⟨"URL".toList, "x\\, y".toList, []⟩ := by
  repeat rw [String.toList_ofList]
  decide +kernel

/-! ### the regenerated `Component.from_ical` (ICal/Gen/BodiesParse.lean, rewritten from cal.py by tools/py2lean.py on every run)

`Bodies.loopP` / `Bodies.fromIcalP` are the translated loop / function with the external pieces of
ICal/Model/ParsePieces.lean; `Bodies.fromIcalTrees` is what the caller sees of the result. The theorems above speak
of `pstep` / `prun` / `parseText`; these say that the code, as translated, is that model. -/

/-- one iteration of the translated loop is `pstep` (the Python list has its top at the end) -/
theorem body_from_ical_step (tzok : Comp → Bool) (dec : Dec) (st : PState) (hst : st.stopped = false) (line : Str) (rest : List Str) :
    Bodies.loopP tzok dec st.stack.reverse st.comps (line :: rest) = Bodies.liftStep tzok dec rest (pstep tzok dec st line) :=
  Bodies.loop_cons tzok dec st hst line rest

/-- the translated loop is `prun` -/
theorem body_from_ical_loop (tzok : Comp → Bool) (dec : Dec) (lines : List Str) (st : PState) (hst : st.stopped = false) :
    Bodies.loopP tzok dec st.stack.reverse st.comps lines =
      match prun tzok dec st lines with
      | none => .error .valueError
      | some st' => .ok (st'.stack.reverse, st'.comps) :=
  Bodies.loop_prun tzok dec lines st hst

/-- the translated `Component.from_ical(st, multiple)` is `parseLinesP` on the unfolded lines -/
theorem body_from_ical (tzok : Comp → Bool) (dec : Dec) (st : Str) (multiple : Bool) :
    Bodies.fromIcalP tzok dec st multiple =
      match parseLinesP tzok dec multiple (linesFromIcal st) with
      | none => .error .valueError
      | some cs => if multiple then .ok (.many cs) else match cs with
        | c :: _ => .ok (.one c)
        | [] => .error .indexError :=
  Bodies.fromIcal_parseLinesP tzok dec st multiple

/-- what the caller sees of the translated function is `parseText` -/
theorem body_parseText (tzok : Comp → Bool) (dec : Dec) (multiple : Bool) (st : Str) :
    Bodies.fromIcalTrees tzok dec multiple st = parseText tzok dec multiple st :=
  Bodies.fromIcalTrees_parseText tzok dec multiple st

/-- `parse_toIcal` on the translated function: it reads `to_ical()` of a tree of the domain back as that tree -/
theorem body_parse_toIcal (tzok : Comp → Bool) (dec : Dec) (t : Comp) (hwf : WF dec t) (htz : TzOK tzok true t) (h : ∀ it ∈ items true t, ItemOK it) :
    ∃ text, toIcal true t = .ok text ∧ Bodies.fromIcalTrees tzok dec false text = some ([sortedTree true t], []) := by
  obtain ⟨text, h1, h2⟩ := parse_toIcal tzok dec t hwf htz h
  exact ⟨text, h1, by rw [body_parseText]; exact h2⟩

/-- `parse_any_text` on the translated function -/
theorem body_parse_any_text (tzok : Comp → Bool) (dec : Dec) (t : Comp) (hwf : WF dec t)
    (htz : TzOK tzok true t) (h : ∀ it ∈ items true t, ItemOK it)
    (hcr : ∀ it ∈ items true t, CR ∉ lnOf true it)
    (ps : List PhysLine) (rs : List Rewrite) (hps : ∀ p ∈ ps, p.ok)
    (hcv : Pointwise CaseVariant ((items true t).map (lnOf true)) (ps.map PhysLine.logical))
    (hc : rs.countP Rewrite.isBOM ≤ 1) :
    Bodies.fromIcalTrees tzok dec false (applyAll rs (physText ps)) = some ([sortedTree true t], []) := by
  rw [body_parseText]; exact parse_any_text tzok dec t hwf htz h hcr ps rs hps hcv hc

end ICal.C01
