/-
  C07 — TEXT escaping is lossless for every string: alone, as property value, in lists.
  Property theorems only; helper lemmas are in ICal/Lemmas/Text.lean (`noPair` in ICal/Lemmas/PyStr.lean).
  `escapeChar`, `unescapeChar`, `catsToIcal`, `catsFromIcal` are the models of
  escape_char / unescape_char / vCategory.to_ical / vCategory.from_ical built from the
  *generated* replace chain and decoder class (ICal.Gen, regenerated from /repo each run).
-/
import ICal.Lemmas.Text
import ICal.Props.C05
import ICal.Props.C06
import ICal.Lemmas.BodiesText
namespace ICal.C07

/-- The encoder is "normalise, then escape each character on its own". -/
theorem escape_tokens (s : Str) : escapeChar s = (norm s).flatMap escC := by
  rw [escapeChar_eq_lit, ICal.escape_tokens]

/-- Direct codec: decoding the encoding of any string gives the string after the documented
    normalisation (literal backslash-N -> LF, CRLF -> LF). Unbounded in `s`. -/
theorem text_roundtrip (s : Str) : vTextFromIcal (vTextToIcal s) = norm s := by
  unfold vTextFromIcal vTextToIcal
  rw [unescapeChar_eq_tok, escape_tokens, unesc_esc]

/-- The encoded form lies in the escaped-token language: tokens `\\ \; \, \n` and plain
    characters other than backslash, `;`, `,` and LF. -/
theorem escape_wellformed (s : Str) : wellEscaped (vTextToIcal s) = true := by
  unfold vTextToIcal; rw [escape_tokens]; exact wellEscaped_tokens _

/-- No raw line feed in the encoded form. -/
theorem escape_no_linebreak (s : Str) : LF ∉ vTextToIcal s := by
  unfold vTextToIcal; rw [escape_tokens]
  exact not_mem_flatMap_escC _

/-- CATEGORIES: a non-empty list of arbitrary strings survives join-and-split item by item. -/
theorem categories_roundtrip (xs : List Str) (hne : xs ≠ []) :
    catsFromIcal (catsToIcal xs) = xs.map norm := by
  unfold catsFromIcal catsToIcal vTextToIcal
  have e : xs.map escapeChar = (xs.map norm).map (fun u => u.flatMap escC) := by
    simp [List.map_map, Function.comp_def, escape_tokens]
  rw [e, split_join_tokens _ (by simpa using hne), List.map_map]
  simp only [Function.comp_def, unescapeChar_eq_tok, unesc_esc]
  simp

/-- An item never leaks into its neighbours: the number of items is preserved. -/
theorem categories_arity (xs : List Str) (hne : xs ≠ []) :
    (catsFromIcal (catsToIcal xs)).length = xs.length := by
  rw [categories_roundtrip xs hne]; simp

/-- Property route: a TEXT value written as a property line (`Event.add(name, s)` then
    `to_ical`), folded, unfolded and read back through `raw_value()` and `vText.from_ical` - what
    `Component.from_ical` does for TEXT-typed properties - is `norm s`, for EVERY string `s` and
    every parameter map of the domain (no escape-hazard hypothesis: the raw value route does not
    pass through the placeholder pass). -/
theorem text_property_route (n : Str) (p : Params) (s : Str) (sorted : Bool)
    (hn : validToken n = true) (hp : ParamDomain p) :
    ∃ l, fromParts n p (vTextToIcal s) sorted = .ok l ∧ unfold (foldline l) = l ∧
      vTextFromIcal (rawValue l) = norm s := by
  obtain ⟨l, hl⟩ := C05.fromParts_succeeds n p (vTextToIcal s) sorted hn hp (escape_no_linebreak s)
  refine ⟨l, hl, ?_, ?_⟩
  · apply C06.unfold_fold
    exact fromParts_no_LF _ _ _ _ l hl
  · rw [C05.rawValue_fromParts n p (vTextToIcal s) sorted hn hp l hl]
    exact text_roundtrip s

/-! Non-vacuity: the statements apply to strings made of every critical character. -/
example : vTextFromIcal (vTextToIcal ['\\', 'n', ';', ',', ':', '"', '%', '2', 'C', '\r', '\n', '\\', 'N', ' ', 'a'])
    = ['\\', 'n', ';', ',', ':', '"', '%', '2', 'C', '\n', '\n', ' ', 'a'] := by decide +kernel
example : catsFromIcal (catsToIcal [['a', ',', 'b'], ['\\'], [], [';']]) = [['a', ',', 'b'], ['\\'], [], [';']] := by decide +kernel

/-- "No unescaped semicolon or comma", positionally: wherever a `;` or `,` stands in the encoded
    form of ANY string, the run of backslashes that ends just before it has odd length (so a reader
    that pairs backslashes from the left sees it as escaped). -/
theorem escape_delims_escaped (s pre post : Str) (c : Char)
    (h : vTextToIcal s = pre ++ c :: post) (hc : c = ';' ∨ c = ',') : bsRun pre % 2 = 1 := by
  have := wellEscaped_delim_par _ (escape_wellformed s) pre c post h hc
  rw [escPar_eq_odd] at this
  simpa using this

example : vTextToIcal ['a', '\\', ';', ','] = ['a', '\\', '\\', '\\', ';', '\\'] ++ ',' :: [] ∧
    bsRun ['a', '\\', '\\', '\\', ';', '\\'] = 1 ∧ bsRun ['a', '\\', '\\', '\\'] = 3 := by decide +kernel

/-- "No raw line break" is about LF (§5.3/2): the encoded form holds no LF, hence no CRLF pair;
    a bare CR is kept as it is (second component: it does occur). -/
theorem escape_no_crlf_bare_cr_kept :
    (∀ s, noPair CR LF (vTextToIcal s) = true) ∧ vTextToIcal [CR] = [CR] := by
  refine ⟨fun s => ?_, by decide⟩
  have h := escape_no_linebreak s
  generalize vTextToIcal s = t at h
  fun_induction noPair CR LF t with
  | case1 => rfl
  | case2 c => rfl
  | case3 c d cs ih =>
    have hd : d ≠ LF := (List.ne_of_not_mem_cons (List.not_mem_of_not_mem_cons h)).symm
    have := ih (List.not_mem_of_not_mem_cons h)
    simp [hd, this]

/-- The encoder identifies exactly the strings with the same normal form: it is injective on
    normalised strings and loses nothing else. -/
theorem escape_injective_iff (s t : Str) : vTextToIcal s = vTextToIcal t ↔ norm s = norm t := by
  constructor
  · intro h
    have := congrArg vTextFromIcal h
    rwa [text_roundtrip, text_roundtrip] at this
  · intro h; unfold vTextToIcal; rw [escape_tokens, escape_tokens, h]

example : vTextToIcal ['\\', 'N', 'a'] = vTextToIcal ['\r', '\n', 'a'] ∧ norm ['\\', 'N', 'a'] = ['\n', 'a'] := by decide +kernel

/-- Is the documented normalisation a projection (is a decoded text a fixed point of the round
    trip)?  Full statement: -/
def norm_idem_full : Prop := ∀ s : Str, norm (norm s) = norm s

/-- It is, exactly when the normal form holds no CRLF pair and no backslash-N pair … -/
theorem norm_idem_partial (s : Str)
    (h1 : noPair BS 'N' (norm s) = true) (h2 : noPair CR LF (norm s) = true) :
    norm (norm s) = norm s := by
  show rep2 CR LF [LF] (rep2 BS 'N' [LF] (norm s)) = norm s
  rw [rep2_noPair _ _ _ _ h1, rep2_noPair _ _ _ _ h2]

example : noPair BS 'N' (norm ['\\', '\\', 'N', 'N', '\r', '\n']) = true ∧
    noPair CR LF (norm ['\\', '\\', 'N', 'N', '\r', '\n']) = true := by decide +kernel

/-- … and the code's normalisation is NOT a projection: `CR CR LF` normalises to `CR LF`, which
    normalises to `LF`. A value read back from a file changes again on the next write/read
    (replayed on the code: SUMMARY "\r\r\n" reads back as "\r\n", and after one more
    serialise/parse as "\n"). -/
theorem norm_idem_full_false : ¬ norm_idem_full := by
  intro h; exact absurd (h [CR, CR, LF]) (by decide)

theorem second_roundtrip_witness :
    vTextFromIcal (vTextToIcal [CR, CR, LF]) = [CR, LF] ∧
    vTextFromIcal (vTextToIcal (vTextFromIcal (vTextToIcal [CR, CR, LF]))) = [LF] := by decide +kernel

/-- CATEGORIES for EVERY list length: the full statement fails exactly at the empty list (the
    empty list is written as the empty text, which reads back as one empty item); all other lengths
    are `categories_roundtrip`, whose items may be empty or end in a backslash. -/
def categories_roundtrip_full : Prop := ∀ xs : List Str, catsFromIcal (catsToIcal xs) = xs.map norm

theorem categories_roundtrip_iff (xs : List Str) :
    catsFromIcal (catsToIcal xs) = xs.map norm ↔ xs ≠ [] := by
  constructor
  · rintro h rfl; exact absurd h (by decide)
  · exact categories_roundtrip xs

theorem categories_empty_witness : ¬ categories_roundtrip_full ∧ catsFromIcal (catsToIcal []) = [[]] :=
  ⟨fun h => absurd (h []) (by decide), by decide⟩

example : catsFromIcal (catsToIcal [[], ['a', '\\'], ['\\', '\\'], []]) = [[], ['a', '\\'], ['\\', '\\'], []] := by decide +kernel

/-! ## Regenerated function body = hand model

  `ICal.Gen.BodiesText.split_on_unescaped_comma` is written by tools/py2lean.py from the current
  source text on every run (a `for` loop with a string builder, a result list and the `escaped`
  flag); the theorem proves it equal to the model `splitUnescComma` that the theorems above are about. -/

theorem body_split_on_unescaped_comma (text : Str) :
    Gen.BodiesText.split_on_unescaped_comma text = splitUnescComma text :=
  Bodies.split_on_unescaped_comma_eq text

example : Gen.BodiesText.split_on_unescaped_comma "a\\,b,c\\".toList = ["a\\,b".toList, "c\\".toList] := by
  repeat rw [String.toList_ofList]
  decide +kernel

end ICal.C07
