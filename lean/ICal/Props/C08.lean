/-
  C08 — property parameters survive serialising and parsing: same names (upper-cased), same values,
  same order; a single string holding a comma stays distinct from a list; every value holding
  `,` `;` `:` is emitted inside double quotes.
  Property theorems only; helper lemmas and the definitions `Balanced`, `ValueOk`, `PValOk`,
  `ParamDomain`, `canonVal`, `canon`, `KeySorted` are in ICal/Lemmas/Params.lean.
  `dquote`, `qJoin`, `qSplit`, `parseParamVals`, `paramsToIcal`, `paramsFromIcal` are the models of
  dquote / q_join / q_split / the value loop of Parameters.from_ical / Parameters.to_ical /
  Parameters.from_ical, built on the *generated* character classes (ICal.Gen, regenerated from
  /repo each run).
-/
import ICal.Lemmas.Params
import ICal.Lemmas.BodiesParser
namespace ICal.C08

/-- `,` `;` `:` are in QUOTABLE -/
theorem quotable_delims :
    inClass Gen.quotable ',' = true ∧ inClass Gen.quotable ';' = true ∧ inClass Gen.quotable ':' = true := by
  decide

/-- A value holding a comma, semicolon or colon is emitted inside double quotes (after the
    substitution of `'` for `"`). Unbounded in `v`. -/
theorem dquote_quotes (v : Str) (h : ∃ c ∈ v, c = ',' ∨ c = ';' ∨ c = ':') :
    dquote v = DQ :: rep1 DQ ['\''] v ++ [DQ] := by
  obtain ⟨c, hc, hcase⟩ := h
  refine dquote_quoted v c hc ?_ ?_ <;> rcases hcase with e | e | e <;> (rw [e]; decide)

/-- The backslash is in QUOTABLE (repair 89027b2): a value holding one is emitted inside double quotes, so a
    backslash at the END of a value can no longer stand in front of the delimiter the library writes after the
    value (`\\;` `\\:` `\\,` are what `escape_string` hides).  The recorded finding `param-escape-hazard` is
    about backslash sequences INSIDE a quoted value only; this theorem keeps the repaired part repaired. -/
theorem quotable_backslash : inClass Gen.quotable '\\' = true := by decide

theorem dquote_quotes_backslash (v : Str) (h : '\\' ∈ v) :
    dquote v = DQ :: rep1 DQ ['\''] v ++ [DQ] :=
  dquote_quoted v '\\' h (by decide) (by decide)

/-- `q_split` inverts joining on `sep` for segments that hold no `sep` outside double quotes and
    close their quotes. (`sep ≠ DQ` is necessary: `q_split('a"b', '"')` is `['a"b']`.) -/
theorem qsplit_join (sep : Char) (hs : sep ≠ DQ) (segs : List Str) (hne : joinWith [sep] segs ≠ [])
    (hb : ∀ s ∈ segs, Balanced sep s) : qSplit (joinWith [sep] segs) sep = segs :=
  qSplit_join sep hs segs hne hb

/-- `q_split(item, '=', maxsplit=1)` cuts `KEY=value` after the key, whatever the value holds. -/
theorem qsplit_key_val (k v : Str) (hk : validToken k = true) :
    qSplit (k ++ '=' :: v) '=' (some 1) = [k, v] :=
  qSplit_key_val k v hk

/-- What `dquote` returns never shows `,` or `;` outside double quotes — for every string. -/
theorem dquote_balanced (v : Str) : Balanced ',' (dquote v) ∧ Balanced ';' (dquote v) :=
  ⟨dquote_balanced_any ',' quotable_comma (by decide) v, dquote_balanced_any ';' quotable_semi (by decide) v⟩

/-- A whole item `KEY=value` (string or list value) never shows `;` outside double quotes. -/
theorem item_balanced (k : Str) (v : PVal) (hk : validToken k = true) :
    Balanced ';' (k ++ ['='] ++ paramValue v) :=
  keyValue_balanced k v hk

/-- The values of one parameter: join-and-split returns the list item by item, unquoted.
    (`qJoin xs = []` only for `xs = [[]]`, see `param_vals_empty`.) -/
theorem param_vals_roundtrip (xs : List Str) (_hne : xs ≠ []) (hd : ∀ x ∈ xs, ValueOk x) (hq : qJoin xs ≠ []) :
    parseParamVals false (qSplit (qJoin xs) ',') = some xs :=
  parse_qJoin xs hd hq

/-- The one list whose text is empty. -/
theorem param_vals_empty (xs : List Str) (hne : xs ≠ []) (hq : qJoin xs = []) : xs = [[]] :=
  qJoin_eq_nil xs hne hq

/-- ASCII upper-casing (the model's `upper`) is idempotent. -/
theorem upper_idempotent (k : Str) : upper (upper k) = upper k := upper_idem k

/-- Main theorem: parsing the serialised map gives the map sorted by key, every value unchanged
    except that a one-element list comes back as its element (`canonVal`). Unbounded in the number
    of parameters, list lengths and string lengths. -/
theorem params_roundtrip (m : Params) (hd : ParamDomain m) :
    paramsFromIcal (paramsToIcal m true) false = some (canon m) :=
  fromIcal_toIcal m hd

/-- Order: the parsed keys are sorted in code point order, nothing is lost or added, and every
    key reads back its value (`canonVal` keeps a list of two or more items as the same list, in
    the same order). -/
theorem params_order (m : Params) (hd : ParamDomain m) :
    ∃ p, paramsFromIcal (paramsToIcal m true) false = some p ∧
      List.Pairwise (fun a b => strLe a b = true) (p.map Prod.fst) ∧
      p.length = m.length ∧
      ∀ kv ∈ m, p.get? kv.1 = some (canonVal kv.2) :=
  ⟨canon m, fromIcal_toIcal m hd, canon_sorted m, canon_length m, fun kv h => canon_get? m hd kv h⟩

/-- A single string stays a single string (even when it holds a comma), and a list of two or
    more strings stays that list. -/
theorem params_values (m : Params) (hd : ParamDomain m) :
    ∃ p, paramsFromIcal (paramsToIcal m true) false = some p ∧
      (∀ k x, (k, PVal.one x) ∈ m → p.get? k = some (PVal.one x)) ∧
      (∀ k xs, (k, PVal.many xs) ∈ m → 2 ≤ xs.length → p.get? k = some (PVal.many xs)) := by
  refine ⟨canon m, fromIcal_toIcal m hd, ?_, ?_⟩
  · intro k x h
    exact canon_get? m hd (k, .one x) h
  · intro k xs h hl
    have := canon_get? m hd (k, .many xs) h
    match xs, hl with
    | a :: b :: r, _ => exact this

/-! Non-vacuity: a map with a quoted value holding `,;:`, a list with a quoted item, an empty
    value, a one-element list and a lower-case plain value lies in the domain; the round trip
    on it is checked by evaluation. -/
example : ParamDomain sampleParams := by decide +kernel
example : paramsToIcal sampleParams true =
    "A.1=one;CN=\"x,;: y\";E=;X-B=\"a,b\",c;Z_=,".toList := by
  rw [String.toList_ofList]
  decide +kernel
example : paramsFromIcal (paramsToIcal sampleParams true) false = some (canon sampleParams) := by decide +kernel
example : canon sampleParams =
  [(['A', '.', '1'], .one ['o', 'n', 'e']),
   (['C', 'N'], .one ['x', ',', ';', ':', ' ', 'y']),
   (['E'], .one []),
   (['X', '-', 'B'], .many [['a', ',', 'b'], ['c']]),
   (['Z', '_'], .many [[], []])] := by decide +kernel
example : Balanced ';' ("CN=\"x,;: y\"".toList) ∧ ¬ Balanced ';' ("CN=x;y".toList) := by
  rw [String.toList_ofList, String.toList_ofList]
  decide +kernel
example : ∃ c ∈ ['x', ',', ';', ':', ' ', 'y'], c = ',' ∨ c = ';' ∨ c = ':' := ⟨',', by decide, Or.inl rfl⟩
example : ValueOk ['x', ',', ';', ':', ' ', 'y'] ∧ ¬ ValueOk ['a', '"'] ∧ ¬ ValueOk ['a', '\n'] := by decide +kernel

/-- "… so no other conforming parser splits it differently", for the colon that ends the
    parameter part of a content line: the WHOLE text of `Parameters.to_ical` (either order) shows
    no colon outside double quotes — for every value whatsoever, in the domain or not. -/
theorem params_no_bare_colon (m : Params) (sorted : Bool)
    (hk : ∀ kv ∈ m, validToken (upper kv.1) = true) : Balanced ':' (paramsToIcal m sorted) :=
  paramsToIcal_balanced_colon m sorted hk

example : Balanced ':' (paramsToIcal [(['C','N'], .one ['a', ':', '"', ':', 'b']), (['X'], .many [[':'], ['c']])] false) := by
  decide +kernel

/-- "The same values in the same order" with `sorted=False`: the parsed map lists the names in
    insertion order, every value unchanged up to `canonVal`. -/
theorem params_roundtrip_unsorted (m : Params) (hd : ParamDomain m) :
    paramsFromIcal (paramsToIcal m false) false = some (m.map (fun kv => (kv.1, canonVal kv.2))) :=
  fromIcal_toIcal_unsorted m hd

example : ParamDomain [(['Z'], .one ['a', ',', 'b']), (['A'], .many [['x'], [';']])] := by decide +kernel

/-- Names are compared case-insensitively, writing side: re-casing the stored names in any way
    that keeps their upper-cased form does not change the text. -/
theorem params_name_case_write (m : Params) (f : Str → Str) (hf : ∀ k, upper (f k) = upper k) :
    paramsToIcal (m.map (fun kv => (f kv.1, kv.2))) false = paramsToIcal m false := by
  unfold paramsToIcal
  simp [List.map_map, Function.comp_def, hf]

example : ∀ k, upper (upper k) = upper k := upper_idem
example : paramsToIcal [(['c','n'], .one ['a']), (['X','-','y'], .one [])] false =
    paramsToIcal [(['C','n'], .one ['a']), (['x','-','Y'], .one [])] false := by decide +kernel

/-- Names are compared case-insensitively, reading side: two items whose names differ only in
    letter case are read as the same (name, value), strict or not. -/
theorem params_name_case_read (strict : Bool) (k k' v : Str) (hk : validToken k = true)
    (hk' : validToken k' = true) (hu : upper k = upper k') :
    parseParam strict (k ++ '=' :: v) = parseParam strict (k' ++ '=' :: v) :=
  parseParam_name_case strict k k' v hk hk' hu

example : parseParam false ("cn=a".toList) = parseParam false ("CN=a".toList) ∧
    parseParam false ("cn=a".toList) = some (['C','N'], .one ['a']) := by
  rw [String.toList_ofList, String.toList_ofList]
  decide +kernel

/-- §5.3/1 spelled out: a one-element list and its element have the SAME text (no reader can tell
    them apart — they are identified by `canonVal`), while a single string holding a comma is
    written quoted and is read back as that one string, never as a list. -/
theorem one_element_list_same_text (x : Str) : paramValue (.many [x]) = paramValue (.one x) := rfl

theorem comma_string_stays_single (k x : Str) (hk : validToken k = true) (hu : upper k = k)
    (hx : ValueOk x) (hc : ',' ∈ x) :
    paramValue (.one x) = DQ :: x ++ [DQ] ∧
    paramsFromIcal (paramsToIcal [(k, .one x)] true) false = some [(k, .one x)] := by
  constructor
  · have := dquote_quotes x ⟨',', hc, Or.inl rfl⟩
    rw [rep1_of_not_mem DQ _ x hx.1] at this
    exact this
  · have hd : ParamDomain [(k, .one x)] := by
      refine ⟨by simp, ?_⟩
      intro kv hkv
      simp only [List.mem_cons, List.not_mem_nil, or_false] at hkv
      subst hkv; exact ⟨⟨hk, hu⟩, hx⟩
    rw [params_roundtrip _ hd]
    simp [canon, sortByKey, insertByKey, canonVal]

example : ValueOk ['a', ',', 'b'] ∧ ',' ∈ ['a', ',', 'b'] := by decide +kernel

/-! ## Regenerated function bodies = hand model

  `ICal.Gen.BodiesParser.dquote` / `q_join` are written by tools/py2lean.py from the current source
  text of `parser.dquote` / `parser.q_join` on every run (`.replace`, the f-string, the early return,
  `sep.join(dquote(itm) for itm in lst)`).  `QUOTABLE.search` is a predicate parameter;
  `Bodies.quotableSearch` ("some character is in the generated class `Gen.quotable`") is its hand
  model, compared with the real regex every run.  The theorems prove the regenerated bodies equal to
  the models `dquote` / `qJoin` that every theorem above is about. -/

theorem body_dquote (v : Str) : Gen.BodiesParser.dquote v Bodies.quotableSearch = dquote v :=
  Bodies.dquote_eq v

theorem body_q_join (l : List Str) : Gen.BodiesParser.q_join l [','] Bodies.quotableSearch = qJoin l :=
  Bodies.q_join_eq l

/-- an instance of what the tie buys: the quoting clause holds of what the translated code emits -/
theorem body_dquote_quotes (v : Str) (h : ∃ c ∈ v, c = ',' ∨ c = ';' ∨ c = ':') :
    Gen.BodiesParser.dquote v Bodies.quotableSearch = DQ :: rep1 DQ ['\''] v ++ [DQ] := by
  rw [body_dquote]; exact dquote_quotes v h

example : Gen.BodiesParser.dquote "a,b".toList Bodies.quotableSearch = "\"a,b\"".toList := by
  rw [String.toList_ofList, String.toList_ofList]
  decide +kernel
example : Gen.BodiesParser.q_join ["a;b".toList, "c".toList] [','] Bodies.quotableSearch = "\"a;b\",c".toList := by
  repeat rw [String.toList_ofList]
  decide +kernel

/-- `parser.q_split` regenerated (`for i, ch in enumerate(st)` with `break`, `st[cursor:i]`, a flag
    that starts as the int 0): equal to the model `qSplit` for a one-character separator; the int
    `maxsplit` of the source is `Bodies.maxsplitOf m` (`-1`, any negative value: no limit). -/
theorem body_q_split (st : Str) (c : Char) (m : Int) :
    Gen.BodiesParser.q_split st [c] m = qSplit st c (Bodies.maxsplitOf m) :=
  Bodies.q_split_eq st c m

example : Gen.BodiesParser.q_split "a,\"b,c\",d".toList [','] (-1) = ["a".toList, "\"b,c\"".toList, "d".toList] := by
  repeat rw [String.toList_ofList]
  decide +kernel
example : Gen.BodiesParser.q_split "K=a=b".toList ['='] 1 = ["K".toList, "a=b".toList] := by
  repeat rw [String.toList_ofList]
  decide +kernel

end ICal.C08
