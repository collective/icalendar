/-
  C09 — Parsing is invariant under the rewrites RFC 5545 declares insignificant.

  `parseText tzok dec m t = parseLines tzok dec m (linesFromIcal t)`: the reader first turns the text into
  content lines (`stripBOM`, `unfold` = `uFOLD.sub('', ·)`, `splitNewline` = `NEWLINE.split`, empty
  lines dropped) and then runs the line loop of `Component.from_ical` (`pstep`/`prun`).  So a
  rewrite of the *text* is insignificant as soon as it preserves `linesFromIcal`, and a rewrite of
  the *lines* (letter case) as soon as it preserves every `pstep`.

  Text rewrites (`Rewrite`, `Rewrite.apply` in Lemmas/Rewrite.lean):
    crlfToLf          every CR LF becomes LF                      `rep2 CR LF [LF] t`
    addBOM            a byte-order mark in front                  `BOM :: t`
    addBlank(LF)      a trailing blank line                       `t ++ [CR, LF]`, `t ++ [LF]`
    insertFold k kind a fold (CR LF SP, CR LF HT, LF SP, LF HT) inserted at position `k`, if
                      the character before position `k` is neither CR nor LF
  and, not as a function but as a description of the text, `PhysLine`: a content line written
  as a first segment, continuation segments each preceded by its own fold separator, and a
  CR LF or LF terminator — every fold placement at once.

  Well-formedness (`WFLine l`): `RealLine l` (non-empty, no LF, does not start with SP or HT — what
  `Contentline` asserts and what a line that starts with a property name satisfies), does not
  start with U+FEFF, and contains no CR.  The last condition is needed for the LF rewrite and for
  LF-only folds: a line `a CR` written `a CR CR LF` reads back as `a CR`, but after CR LF ↦ LF it
  is `a CR LF` and reads back as `a` (`lf_needs_hypothesis` below).  On texts, the same condition
  is `crOK t`: every CR is immediately followed by LF.
-/
import ICal.Lemmas.Rewrite
import ICal.Lemmas.BodiesParse
namespace ICal.C09

/-! ## 1. LF instead of CR LF -/

/-- On every text in which each CR is immediately followed by LF, replacing CR LF by LF leaves
    the content lines unchanged.  No other assumption on the text: folds, blank lines, a BOM
    and malformed lines are all allowed. -/
theorem lf_invariant (t : Str) (h : crOK t) :
    linesFromIcal (rep2 CR LF [LF] t) = linesFromIcal t :=
  linesFromIcal_lf t h

/-- The hypothesis cannot be dropped: a line that ends with CR loses it. -/
theorem lf_needs_hypothesis :
    linesFromIcal (rep2 CR LF [LF] ['a', CR, CR, LF]) ≠ linesFromIcal ['a', CR, CR, LF] := by
  have e1 : rep2 CR LF [LF] ['a', CR, CR, LF] = ['a', CR] ++ [LF] := by decide
  have e2 : ['a', CR, CR, LF] = ['a', CR] ++ [CR, LF] := rfl
  have hu : unfold (stripBOM ['a', CR]) = ['a', CR] := by
    have := unfold_seg ['a', CR] [] (by decide) (fun _ => by simp)
    rwa [unfold_nil, List.append_nil] at this
  rw [e1, e2, linesFromIcal_append_crlf]
  intro h
  exact linesFromText_append_lf_ne (stripBOM ['a', CR]) (by rw [hu]; rfl)
    (by unfold linesFromIcal at h; rwa [stripBOM_append _ _ (Or.inl (by simp))] at h)

/-! ## 2. Byte-order mark -/

/-- A byte-order mark in front of a text that does not already start with one is dropped. -/
theorem bom_invariant (t : Str) (h : t.head? ≠ some BOM) :
    linesFromIcal (BOM :: t) = linesFromIcal t :=
  linesFromIcal_bom t h

/-! ## 3. Trailing blank lines -/

/-- A trailing CR LF never changes the content lines — for every text whatsoever. -/
theorem blank_invariant (t : Str) : linesFromIcal (t ++ [CR, LF]) = linesFromIcal t :=
  linesFromIcal_append_crlf t

/-- A trailing bare LF changes nothing if and only if the unfolded text does not end with CR
    (otherwise that CR and the new LF form a CR LF and the last line loses its CR).  This is the
    weakest hypothesis. -/
theorem blank_lf_invariant_iff (t : Str) :
    linesFromIcal (t ++ [LF]) = linesFromIcal t ↔ (unfold (stripBOM t)).getLast? ≠ some CR := by
  constructor
  · intro h hl
    apply linesFromText_append_lf_ne (stripBOM t) hl
    unfold linesFromIcal at h
    rwa [stripBOM_append t _ (Or.inr (by simp [LF, BOM]))] at h
  · exact linesFromIcal_append_lf t

/-- In particular for every text in which each CR is followed by LF. -/
theorem blank_lf_invariant (t : Str) (h : crOK t) : linesFromIcal (t ++ [LF]) = linesFromIcal t :=
  (blank_lf_invariant_iff t).mpr (crOK_getLast _ (crOK_unfold _ (crOK_stripBOM t h)))

/-- Any number of trailing blank lines, each ended by CR LF or by LF. -/
theorem blank_lines_invariant (bs : List Str) (hb : ∀ b ∈ bs, IsBrk b) :
    ∀ (t : Str), crOK t → linesFromIcal (t ++ bs.flatten) = linesFromIcal t := by
  induction bs with
  | nil => intro t _; simp
  | cons b bs ih =>
    intro t h
    have hbs : ∀ x ∈ bs, IsBrk x := fun x hx => hb x (by simp [hx])
    have hbr := hb b (by simp)
    rw [List.flatten_cons, ← List.append_assoc, ih hbs (t ++ b) (crOK_append t b h hbr.crOK)]
    rcases hbr with rfl | rfl
    · exact blank_invariant t
    · exact blank_lf_invariant t h

/-- Only CR LF blank lines: no hypothesis at all. -/
theorem blank_crlf_lines_invariant (n : Nat) (t : Str) :
    linesFromIcal (t ++ (List.replicate n [CR, LF]).flatten) = linesFromIcal t := by
  induction n generalizing t with
  | zero => simp
  | succ n ih =>
    rw [List.replicate_succ, List.flatten_cons, ← List.append_assoc, ih, blank_invariant]

/-! ## 4. Any placement of folds -/

/-- Every way of writing well-formed content lines reads back as those lines: each line is cut
    into a non-empty first segment and any number of continuation segments (empty ones allowed),
    *each* continuation preceded by its own separator — anything the reader takes for a fold
    (`FoldSep`: line breaks followed by exactly one SP or HT; CR LF SP, CR LF HT, LF SP, LF HT are
    instances) — and *each* line ended by CR LF or by LF. -/
theorem physical_lines_invariant (ps : List PhysLine) (h : ∀ p ∈ ps, p.ok) :
    linesFromIcal (physText ps) = ps.map PhysLine.logical :=
  linesFromIcal_physText ps h

/-- The `joinSegs` form with one separator and one terminator: for ANY segmentation of
    well-formed lines (first segment of each line non-empty), not only the one `foldline` chooses.
    Generalises `C06.lines_roundtrip`. -/
theorem refold_invariant (sep brk : Str) (hs : FoldSep sep) (hb : IsBrk brk) (segss : List (List Str))
    (h : ∀ segs ∈ segss, (∃ s0 rest, segs = s0 :: rest ∧ s0 ≠ []) ∧ WFLine segs.flatten) :
    linesFromIcal ((segss.map (fun segs => joinSegs sep segs ++ brk)).flatten) = segss.map List.flatten := by
  have e1 : (segss.map (fun segs => joinSegs sep segs ++ brk)).flatten = physText (segss.map (physOf sep brk)) := by
    unfold physText
    rw [List.map_map]
    congr 1
    apply List.map_congr_left
    intro segs hsegs
    obtain ⟨⟨s0, rest, rfl, _⟩, _⟩ := h segs hsegs
    exact (physOf_text sep brk _ (by simp)).symm
  rw [e1, linesFromIcal_physText]
  · rw [List.map_map]
    apply List.map_congr_left
    intro segs _
    exact physOf_logical sep brk segs
  · intro p hp
    obtain ⟨segs, hsegs, rfl⟩ := List.mem_map.mp hp
    obtain ⟨⟨s0, rest, rfl, hne⟩, hwf⟩ := h segs hsegs
    refine ⟨hne, ?_, hb, ?_⟩
    · intro q hq
      simp only [physOf, List.mem_map] at hq
      obtain ⟨s, _, rfl⟩ := hq
      exact hs
    · rw [physOf_logical]; exact hwf

/-- One more fold, anywhere: in ANY text (well-formed or not) a fold may be inserted after any
    character that is neither CR nor LF. -/
theorem fold_insert_invariant (a b sep : Str) (c : Char) (hc : a.getLast? = some c) (h1 : c ≠ CR)
    (h2 : c ≠ LF) (hs : FoldSep sep) :
    linesFromIcal (a ++ sep ++ b) = linesFromIcal (a ++ b) :=
  linesFromIcal_insert a b sep (by intro e; subst e; simp at hc) (plainEnd_of_getLast a c hc h1 h2) hs

/-! ## 5. Letter case -/

/-- One step of the line loop on a property line: a line whose `parts()` differ from those of `l`
    only in the case of the name (parameter names are upper-cased by `parts()`, so equal
    parameter maps cover any casing of them), with the same value as written. -/
theorem case_invariant_step (tzok : Comp → Bool) (dec : Dec) (st : PState) (l l' n n' : Str) (p : Params)
    (v : Str) (h : parts l = some (n, p, v)) (h' : parts l' = some (n', p, v)) (hn : upper n' = upper n)
    (hr : rawValue l' = rawValue l) :
    pstep tzok dec st l' = pstep tzok dec st l := by
  exact pstep_caseVariant tzok dec st l l' (caseVariant_of_parts h h' hn (Or.inl ⟨rfl, hr⟩))

/-- The same for BEGIN and END lines, where the value (the component name) may change case
    as well (the loop only looks at `upper` of it). -/
theorem case_invariant_step_begin_end (tzok : Comp → Bool) (dec : Dec) (st : PState) (l l' n n' : Str)
    (p : Params) (v v' : Str)
    (h : parts l = some (n, p, v)) (h' : parts l' = some (n', p, v')) (hn : upper n' = upper n)
    (hb : upper n = ['B','E','G','I','N'] ∨ upper n = ['E','N','D']) (hv : upper v' = upper v) :
    pstep tzok dec st l' = pstep tzok dec st l := by
  exact pstep_caseVariant tzok dec st l l' (caseVariant_of_parts h h' hn (Or.inr ⟨hb, hv⟩))

/-- Whole parse: lines related pointwise by `CaseVariant` give the same components and the same
    error log. -/
theorem case_invariant (tzok : Comp → Bool) (dec : Dec) (m : Bool) (ls ls' : List Str)
    (h : Pointwise CaseVariant ls ls') :
    parseLines tzok dec m ls' = parseLines tzok dec m ls :=
  parseLines_caseVariant tzok dec m ls ls' h

/-- Syntactic instance: any casing of the name in front of the first `:` or `;` — for every rest
    of the line (parameters, value, even an unparseable one). -/
theorem case_variant_name (n n' : Str) (hn : validToken n = true) (hn' : validToken n' = true)
    (hu : upper n' = upper n) (c : Char) (hc : c = ':' ∨ c = ';') (r : Str) :
    CaseVariant (n ++ c :: r) (n' ++ c :: r) :=
  caseVariant_name n n' hn hn' hu c hc r

/-- Syntactic instance: any casing of BEGIN/END and of the component name. -/
theorem case_variant_begin_end (n n' w w' : Str) (hn : validToken n = true) (hn' : validToken n' = true)
    (hu : upper n' = upper n) (hw : validToken w = true) (hw' : validToken w' = true)
    (huw : upper w' = upper w) (hb : upper n = ['B','E','G','I','N'] ∨ upper n = ['E','N','D']) :
    CaseVariant (n ++ ':' :: w) (n' ++ ':' :: w') :=
  caseVariant_begin_end n n' w w' hn hn' hu hw hw' huw hb

/-! ## 6. Any composition -/

/-- Any sequence of text rewrites, with at most one `addBOM`, applied to any text in which each
    CR is followed by LF and which does not start with a BOM, preserves the content lines.
    (Two BOMs are not insignificant: the reader drops one, the second becomes part of the first
    line.  Each rewrite re-establishes what the next one needs: `crOK` is preserved by all five,
    and no rewrite other than `addBOM` creates a leading BOM.) -/
theorem compose_invariant_text (rs : List Rewrite) (t : Str) (h : crOK t) (hb : t.head? ≠ some BOM)
    (hc : rs.countP Rewrite.isBOM ≤ 1) :
    linesFromIcal (applyAll rs t) = linesFromIcal t :=
  linesFromIcal_applyAll rs t h hc (fun e => absurd e hb)

/-- From the canonical text of well-formed lines (each line followed by CR LF). -/
theorem compose_invariant (rs : List Rewrite) (ls : List Str) (h : ∀ l ∈ ls, WFLine l)
    (hc : rs.countP Rewrite.isBOM ≤ 1) :
    linesFromIcal (applyAll rs (body ls)) = ls := by
  rw [compose_invariant_text rs _ (crOK_body ls (fun l hl => (h l hl).2.2)) (body_head ls h) hc,
    linesFromIcal_body ls h]

/-! ## The property -/

/-- C09.  Take well-formed content lines `ls` and their canonical text `body ls`.  Take any
    case variant of the lines, write it down in any physical form (`ps`: any fold placement,
    any fold separators, CR LF or LF per line), then apply any sequence of text rewrites
    (CR LF ↦ LF, a BOM, trailing blank lines, further folds).  The parse — components and error
    log, or the failure — is the same, for every value decoder `dec`, every time zone cache
    behaviour `tzok` and both values of `multiple`. -/
theorem parse_invariant (tzok : Comp → Bool) (dec : Dec) (m : Bool) (ls : List Str) (ps : List PhysLine)
    (rs : List Rewrite)
    (hls : ∀ l ∈ ls, WFLine l) (hps : ∀ p ∈ ps, p.ok)
    (hcv : Pointwise CaseVariant ls (ps.map PhysLine.logical))
    (hc : rs.countP Rewrite.isBOM ≤ 1) :
    parseText tzok dec m (applyAll rs (physText ps)) = parseText tzok dec m (body ls) := by
  unfold parseText
  rw [compose_invariant_text rs _ (crOK_physText ps hps) (physText_head ps hps) hc,
    physical_lines_invariant ps hps, linesFromIcal_body ls hls]
  exact case_invariant tzok dec m ls _ hcv

/-! ## Non-vacuity -/

/-- every CR followed by LF: a folded, LF-terminated, blank-line-carrying text -/
example : crOK ['A', ':', '1', CR, LF, SP, '2', LF, CR, LF] := by
  simp [crOK, CR, LF, SP]

/-- the four standard separators are fold separators; so is a doubled line break before SP -/
example : FoldSep [CR, LF, SP] ∧ FoldSep [CR, LF, HT] ∧ FoldSep [LF, SP] ∧ FoldSep [LF, HT] :=
  ⟨foldSep_crlf_sp, foldSep_crlf_ht, foldSep_lf_sp, foldSep_lf_ht⟩

/-- well-formed lines -/
example : ∀ l ∈ ["BEGIN:VEVENT".toList, "SUMMARY;LANGUAGE=en:a b".toList, "END:VEVENT".toList], WFLine l := by
  repeat rw [String.toList_ofList]
  unfold WFLine RealLine
  decide +kernel

/-- a physical line with an empty continuation segment, two different separators and an LF end -/
example : (PhysLine.mk "SUM".toList [([CR, LF, HT], "MARY:a".toList), ([LF, SP], []), ([LF, SP], " b".toList)] [LF]).ok := by
  repeat rw [String.toList_ofList]
  refine ⟨by decide, ?_, Or.inr rfl, by unfold WFLine RealLine; decide +kernel⟩
  intro q hq
  simp only [List.mem_cons, List.mem_nil_iff, or_false] at hq
  rcases hq with rfl | rfl | rfl
  · exact foldSep_crlf_ht
  · exact foldSep_lf_sp
  · exact foldSep_lf_sp

/-- the hypotheses of `case_invariant_step` hold for a line with lower-case property and
    parameter names -/
example : ∃ n n' p v, parts "DTSTART;TZID=X:1".toList = some (n, p, v) ∧
    parts "dtstart;tzid=X:1".toList = some (n', p, v) ∧ upper n' = upper n ∧
    rawValue "dtstart;tzid=X:1".toList = rawValue "DTSTART;TZID=X:1".toList := by
  refine ⟨"DTSTART".toList, "dtstart".toList, [("TZID".toList, PVal.one "X".toList)], "1".toList, ?_⟩
  repeat rw [String.toList_ofList]
  exact ⟨by decide +kernel, by decide +kernel, by decide +kernel, by decide +kernel⟩

/-- `CaseVariant` relates a calendar to its lower-case spelling -/
example : Pointwise CaseVariant
    ["BEGIN:VEVENT".toList, "SUMMARY;LANGUAGE=en:a b".toList, "END:VEVENT".toList]
    ["begin:vevent".toList, "summary;LANGUAGE=en:a b".toList, "End:Vevent".toList] := by
  -- the literals become explicit character lists, which the unifier can match against `n ++ c :: r`
  -- (decoding a string literal by `whnf` is quadratic in its length)
  repeat rw [String.toList_ofList]
  refine .cons ?_ (.cons ?_ (.cons ?_ .nil))
  · exact caseVariant_begin_end ['B','E','G','I','N'] ['b','e','g','i','n'] ['V','E','V','E','N','T']
      ['v','e','v','e','n','t'] (by decide +kernel) (by decide +kernel) (by decide +kernel) (by decide +kernel)
      (by decide +kernel) (by decide +kernel) (Or.inl (by decide +kernel))
  · exact caseVariant_name ['S','U','M','M','A','R','Y'] ['s','u','m','m','a','r','y'] (by decide +kernel)
      (by decide +kernel) (by decide +kernel) ';' (Or.inr rfl) _
  · exact caseVariant_begin_end ['E','N','D'] ['E','n','d'] ['V','E','V','E','N','T'] ['V','e','v','e','n','t']
      (by decide +kernel) (by decide +kernel) (by decide +kernel) (by decide +kernel) (by decide +kernel)
      (by decide +kernel) (Or.inr (by decide +kernel))

/-- a rewrite sequence with exactly one BOM, and one that actually changes the text -/
example : [Rewrite.insertFold 3 .lfHt, .crlfToLf, .addBlankLF, .addBOM, .addBlank].countP Rewrite.isBOM ≤ 1 := by
  decide

example : applyAll [Rewrite.insertFold 3 .crlfSp, .crlfToLf, .addBOM, .addBlank] ['A', ':', 'x', 'y', CR, LF] =
    [BOM, 'A', ':', 'x', LF, SP, 'y', LF, CR, LF] := by
  decide

/-! ## the regenerated `Component.from_ical` (ICal/Gen/BodiesParse.lean, rewritten from cal.py by tools/py2lean.py on every run) -/

/-- what the caller sees of the translated function is `parseText`, of which `parse_invariant` speaks -/
theorem body_parseText (tzok : Comp → Bool) (dec : Dec) (multiple : Bool) (st : Str) :
    Bodies.fromIcalTrees tzok dec multiple st = parseText tzok dec multiple st :=
  Bodies.fromIcalTrees_parseText tzok dec multiple st

/-- `parse_invariant` on the translated function -/
theorem body_parse_invariant (tzok : Comp → Bool) (dec : Dec) (m : Bool) (ls : List Str) (ps : List PhysLine)
    (rs : List Rewrite)
    (hls : ∀ l ∈ ls, WFLine l) (hps : ∀ p ∈ ps, p.ok)
    (hcv : Pointwise CaseVariant ls (ps.map PhysLine.logical))
    (hc : rs.countP Rewrite.isBOM ≤ 1) :
    Bodies.fromIcalTrees tzok dec m (applyAll rs (physText ps)) = Bodies.fromIcalTrees tzok dec m (body ls) := by
  rw [body_parseText, body_parseText]; exact parse_invariant tzok dec m ls ps rs hls hps hcv hc

end ICal.C09
