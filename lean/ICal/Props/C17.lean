/-
  C17 — components and parameter maps are dictionaries keyed by upper-cased names.
  Property theorems only; the model is ICal/Model/CDict.lean (CaselessDict as the code writes it),
  helper lemmas are in ICal/Lemmas/CDict.lean.

  `up` stands for `to_unicode(key).upper()`.  Python's `str.upper` is Unicode; the theorems use
  only `up (up k) = up k` (checked by the harness for every code point of the running
  interpreter), and `upper_idem` proves it for the ASCII instance the driver runs.
-/
import ICal.Lemmas.CDict
import ICal.Lemmas.BodiesCDict
import ICal.Lemmas.BodiesCDictMeta
import ICal.Lemmas.BodiesCDictSort
import ICal.Lemmas.BodiesCDictInit
namespace ICal.C17
open ICal.CDict

/-- The law assumed of `up`, for the instance used by the driver. -/
theorem upper_idem (k : Str) : upper (upper k) = upper k := ICal.upper_idem k

/-- Invariant: stored keys are pairwise distinct and folded.  It holds of the empty map and
    every call (overridden or inherited) preserves it. -/
theorem cd_inv {V : Type} [DecidableEq V] (up : Str → Str) (up_idem : ∀ k, up (up k) = up k) :
    Inv up ([] : Store V) ∧ ∀ (s : Store V) (op : Op V), Inv up s → Inv up (step up s op).1 :=
  ⟨inv_nil, fun _ op h => inv_step up_idem h op⟩

/-- Only upper-case keys are stored, after every history. -/
theorem cd_inv_run {V : Type} [DecidableEq V] (up : Str → Str) (up_idem : ∀ k, up (up k) = up k)
    (ops : List (Op V)) :
    (odKeys (run up ([] : Store V) ops).1).Nodup ∧ ∀ k ∈ odKeys (run up ([] : Store V) ops).1, up k = k :=
  inv_run up_idem ops inv_nil

/-- The driver's per-step trace (what the correspondence run compares with the implementation)
    shows the outputs of `run`, and every key list in it is duplicate-free and folded. -/
theorem cd_trace_keys_upper {V : Type} [DecidableEq V] (up : Str → Str) (up_idem : ∀ k, up (up k) = up k)
    (ops : List (Op V)) :
    (trace up ([] : Store V) ops).map Prod.fst = (run up [] ops).2 ∧
    ∀ r ∈ trace up ([] : Store V) ops, r.2.Nodup ∧ ∀ k ∈ r.2, up k = k :=
  ⟨trace_fst ops [], trace_keys_inv up_idem ops inv_nil⟩

/-- `__init__`: `OrderedDict.__init__` already stores every pair through the folding
    `__setitem__`, so the re-keying loop that follows never finds a key to change. -/
theorem cd_init_is_sequential_setitem {V : Type} (up : Str → Str) (up_idem : ∀ k, up (up k) = up k)
    (args : List (Str × V)) : cdInit up args = cdUpdate up [] args :=
  cdInit_update up_idem args

/-- `copy()` (two nested constructor calls) reproduces the store, order included. -/
theorem cd_copy_identity {V : Type} (up : Str → Str) (up_idem : ∀ k, up (up k) = up k)
    (s : Store V) (h : Inv up s) : cdCopy up s = s := cdCopy_self up_idem h

/-- First-insertion order: assigning to a name that is present (in any case) leaves the key list
    unchanged, assigning to a new name appends its folded form. -/
theorem cd_first_insertion_order {V : Type} (up : Str → Str) (s : Store V) (k : Str) (v : V) :
    odKeys (cdSetitem up s k v) = if up k ∈ odKeys s then odKeys s else odKeys s ++ [up k] :=
  odKeys_odSet s (up k) v

/-- FULL statement of the refinement: every history gives the outputs and the stored entries
    (in order) of a plain ordered dictionary on which the caller folds the keys.
    It is FALSE of the code (recorded finding, see the witness below). -/
def cd_refines_full (up : Str → Str) : Prop :=
  ∀ (ops : List (Op Nat)), run up ([] : Store Nat) ops = runSpec [] (ops.map (foldOp up))

/-- One call refines the dictionary call on the folded key unless it is the recorded deviation
    (`excluded`: `pop` of an absent name without default). -/
theorem cd_step_refines {V : Type} [DecidableEq V] (up : Str → Str) (up_idem : ∀ k, up (up k) = up k)
    (s : Store V) (h : Inv up s) (op : Op V) (hx : excluded up s op = false) :
    step up s op = stepSpec s (foldOp up op) :=
  step_refines up_idem h op hx

/-- Refinement for all histories that never make an excluded call: equal outputs at every step
    and equal final stores — same keys, same values, same (first-insertion) order. -/
theorem cd_refines_partial {V : Type} [DecidableEq V] (up : Str → Str) (up_idem : ∀ k, up (up k) = up k)
    (ops : List (Op V)) (hx : runExcluded up ([] : Store V) ops = false) :
    run up ([] : Store V) ops = runSpec [] (ops.map (foldOp up)) :=
  run_refines up_idem ops inv_nil hx

/-- The exclusion is exactly the finding class: only `pop` without default on an absent name. -/
theorem excluded_only_pop {V : Type} [DecidableEq V] (up : Str → Str) (s : Store V) (op : Op V)
    (h : excluded up s op = true) : ∃ k, op = .pop k none ∧ up k ∉ odKeys s := by
  cases op with
  | pop k d =>
    cases d with
    | some d => simp [excluded] at h
    | none =>
      refine ⟨k, rfl, ?_⟩
      simp only [excluded, Bool.not_eq_eq_eq_not, Bool.not_true] at h
      intro hm; rw [(odHas_iff s (up k)).mpr hm] at h; cases h
  | _ => simp [excluded] at h

/-- Recorded finding: `pop` of a missing key returns `None`; a dictionary raises KeyError. -/
theorem pop_witness : ¬ cd_refines_full upper :=
  fun h => absurd (h [.pop ['a'] none]) (by decide)

/-- `move_to_end` folds its key (repaired in 991e646): any spelling of a
    present name moves it, exactly as the dictionary call on the folded key. -/
theorem move_to_end_folded {V : Type} [DecidableEq V] (up : Str → Str) (s : Store V) (k : Str) (last : Bool) :
    step up s (.moveToEnd k last) = stepSpec s (.moveToEnd (up k) last) := rfl

/-- Equal to any mapping with the same upper-cased content, whatever the order and the letter
    case of the other mapping's keys. -/
theorem cd_eq_mapping {V : Type} [DecidableEq V] (up : Str → Str) (up_idem : ∀ k, up (up k) = up k)
    (s : Store V) (h : Inv up s) (other : List (Str × V))
    (hp : (other.map (foldPair up)).Perm s) : cdEq up s other = true := by
  have hn : (odKeys (other.map (foldPair up))).Nodup := (hp.map Prod.fst).nodup_iff.mpr h.1
  unfold cdEq
  rw [cdInit_eq up_idem, odSetAll_nodup _ hn]
  exact dictEq_of_perm hn hp

/-- Equality is exactly equality of upper-cased content (a later entry of `other` overrides an
    earlier one whose name folds to the same key, as in `CaselessDict(other)`). -/
theorem cd_eq_iff {V : Type} [DecidableEq V] (up : Str → Str) (up_idem : ∀ k, up (up k) = up k)
    (s : Store V) (h : Inv up s) (other : List (Str × V)) :
    cdEq up s other = true ↔ ∀ k, odGet s k = odGet (odSetAll [] (other.map (foldPair up))) k := by
  unfold cdEq
  rw [cdInit_eq up_idem]
  exact dictEq_iff h.1 (inv_odSetAll_fold up_idem other inv_nil).1

/-- What `canonsort_keys(keys, order)` computes for distinct keys: the declared names that occur,
    in declared order (a name declared twice counts at its LAST position, because the index map
    is built by a dict comprehension), then all other names sorted by code point. -/
theorem canonsort_spec (keys order : List Str) (hk : keys.Nodup) :
    canonsort keys order =
      (dedupLast order).filter (fun k => decide (k ∈ keys)) ++
      (keys.filter (fun k => decide (k ∉ order))).mergeSort strLe :=
  CDict.canonsort_spec keys order hk

/-- With a duplicate-free declaration (all `canonical_order` tuples in the library):
    priority names first in their declared order, the rest alphabetically. -/
theorem canonsort_spec_nodup (keys order : List Str) (hk : keys.Nodup) (ho : order.Nodup) :
    canonsort keys order =
      order.filter (fun k => decide (k ∈ keys)) ++
      (keys.filter (fun k => decide (k ∉ order))).mergeSort strLe := by
  rw [canonsort_spec keys order hk, dedupLast_of_nodup order ho]

/-- "alphabetically": the tail is sorted by code-point order and is a rearrangement of the
    undeclared names. -/
theorem canonsort_tail_sorted (l : List Str) :
    (l.mergeSort strLe).Pairwise (fun a b => strLe a b = true) ∧ (l.mergeSort strLe).Perm l :=
  ⟨List.pairwise_mergeSort strLe_trans strLe_total l, List.mergeSort_perm l strLe⟩

/-- The canonical order does not depend on the insertion order of the keys. -/
theorem canonsort_perm (order keys keys' : List Str) (h : keys.Perm keys') :
    canonsort keys order = canonsort keys' order :=
  CDict.canonsort_perm order keys keys' h

/-- `sorted_keys()` returns exactly the stored keys, rearranged. -/
theorem canonsort_is_rearrangement (keys order : List Str) : (canonsort keys order).Perm keys :=
  canonsort_perm_keys keys order

/-! Non-vacuity. -/
-- the hypothesis `up_idem` is satisfiable (by the driver's instance), and so is `Inv`
example : ∀ k, upper (upper k) = upper k := upper_idem
example : Inv upper ([(['A'], 1), (['B'], 2)] : Store Nat) := by
  refine ⟨by decide, ?_⟩
  intro k hk; simp at hk; rcases hk with rfl | rfl <;> decide
-- a history with case variants, bytes/str-agnostic keys, every kind of call; not excluded
example : runExcluded upper ([] : Store Nat)
    [.init [(['a'], 1), (['A'], 2), (['b'], 3)], .setitem ['a', 'b'] 4, .pop ['B'] none, .pop ['B'] (some 7),
     .setdefault ['b'] 5, .moveToEnd ['a'] false, .or [(['a'], 9)], .copy, .delitem ['a']] = false := by decide +kernel
example : (run upper ([] : Store Nat)
    [.init [(['a'], 1), (['A'], 2), (['b'], 3)], .setitem ['a', 'b'] 4, .pop ['B'] none, .getitem ['a'],
     .eq [(['a', 'B'], 4), (['a'], 2)], .keys]).2
    = [.none, .none, .val 3, .val 2, .bool true, .keys [['A'], ['A', 'B']]] := by decide +kernel
-- the excluded region is inhabited (the findings are real calls)
example : excluded upper ([] : Store Nat) (.pop ['a'] none) = true := by decide
-- `move_to_end` with an unfolded key raised KeyError before 991e646; it now behaves like the dictionary
example : run upper ([] : Store Nat) [.setitem ['a'] 1, .setitem ['b'] 2, .moveToEnd ['a'] true, .keys]
    = ([(['B'], 2), (['A'], 1)], [.none, .none, .none, .keys [['B'], ['A']]]) := by decide +kernel
-- `cd_eq_mapping` applies to a mapping in another order and another letter case
example : cdEq upper ([(['A'], 1), (['B'], 2)] : Store Nat) [(['b'], 2), (['a'], 1)] = true := by decide +kernel
-- canonsort: declared names first (last index wins for a repeated declaration), rest sorted
example : canonsort [['Z'], ['B'], ['A'], ['C']] [['C'], ['B'], ['C']] = [['B'], ['C'], ['A'], ['Z']] := by
  rw [canonsort_spec _ _ (by decide)]
  simp [dedupLast, List.mergeSort, List.MergeSort.Internal.splitInTwo, strLe, strLt]

/-! ## Regenerated function bodies = steps of the hand model

  `ICal.Gen.BodiesCDict.cd_*` are written by tools/py2lean.py from the current source of the delegating methods of
  `CaselessDict` on every run: `key = to_unicode(key); [return] super().<m>(key.upper(), ..)`.  `self` is the state of
  the underlying ordered dict; each `super().<m>` is a parameter, given here the corresponding step of the plain
  ordered dict of the model (`Bodies.sGetitem` ..; for `setdefault` the `OrderedDict.setdefault` that goes back
  through the subclass methods).  The theorems: each translated method is the model's `step` on that operation, for
  the key folding `up k = upper (to_unicode k)`.  Which `super()` method is called, with which arguments in which
  order, what is returned (a method without `return` returns None but lets the step's exception through) and the
  defaults of the keyword parameters (`cd_defaults`) are part of the translated code. -/

section bodies
variable {V : Type} [DecidableEq V]
theorem body_cd_getitem (tu : Str → Str) (s : Store V) (k : Str) :
    Gen.BodiesCDict.cd_getitem tu Bodies.sGetitem s k = step (Bodies.upOf tu) s (.getitem k) := Bodies.cd_getitem_eq tu s k
theorem body_cd_setitem (tu : Str → Str) (s : Store V) (k : Str) (v : V) :
    Gen.BodiesCDict.cd_setitem tu Bodies.sSetitem s k v = step (Bodies.upOf tu) s (.setitem k v) := Bodies.cd_setitem_eq tu s k v
theorem body_cd_delitem (tu : Str → Str) (s : Store V) (k : Str) :
    Gen.BodiesCDict.cd_delitem tu Bodies.sDelitem s k = step (Bodies.upOf tu) s (.delitem k) := Bodies.cd_delitem_eq tu s k
theorem body_cd_contains (tu : Str → Str) (s : Store V) (k : Str) :
    Gen.BodiesCDict.cd_contains tu Bodies.sContains s k = step (Bodies.upOf tu) s (.contains k) := Bodies.cd_contains_eq tu s k
theorem body_cd_has_key (tu : Str → Str) (s : Store V) (k : Str) :
    Gen.BodiesCDict.cd_has_key tu Bodies.sContains s k = step (Bodies.upOf tu) s (.hasKey k) := Bodies.cd_has_key_eq tu s k
theorem body_cd_get (tu : Str → Str) (s : Store V) (k : Str) (d : Option V) :
    Gen.BodiesCDict.cd_get tu Bodies.sGet s k d = step (Bodies.upOf tu) s (.get k d) := Bodies.cd_get_eq tu s k d
theorem body_cd_setdefault (tu : Str → Str) (s : Store V) (k : Str) (v : V) :
    Gen.BodiesCDict.cd_setdefault tu (Bodies.sSetdefault (Bodies.upOf tu)) s k v = step (Bodies.upOf tu) s (.setdefault k v) :=
  Bodies.cd_setdefault_eq tu s k v
theorem body_cd_pop (tu : Str → Str) (s : Store V) (k : Str) (d : Option V) :
    Gen.BodiesCDict.cd_pop tu Bodies.sPop s k d = step (Bodies.upOf tu) s (.pop k d) := Bodies.cd_pop_eq tu s k d
theorem body_cd_popitem (tu : Str → Str) (s : Store V) :
    Gen.BodiesCDict.cd_popitem cdPopitem s = step (Bodies.upOf tu) s .popitem := Bodies.cd_popitem_eq tu s
theorem body_cd_move_to_end (tu : Str → Str) (s : Store V) (k : Str) (last : Bool) :
    Gen.BodiesCDict.cd_move_to_end tu Bodies.sMoveToEnd s k last = step (Bodies.upOf tu) s (.moveToEnd k last) :=
  Bodies.cd_move_to_end_eq tu s k last
end bodies

theorem body_cd_defaults :
    Gen.BodiesCDict.cd_get_default_default = none ∧ Gen.BodiesCDict.cd_pop_default_default = none ∧
      Gen.BodiesCDict.cd_move_to_end_default_last = true := Bodies.cd_defaults

/-! ### `__ne__`, `__eq__`, `sorted_keys`, `sorted_items` as regenerated

Thin methods: what they compare and sort with is given as the model has it.  The translation pins their shape and their
presence - a method removed from the class makes `tools/extract.py` fail, which breaks this property's tie. -/

theorem body_cd_ne {V : Type} [DecidableEq V] (up : Str → Str) (s : Store V) (other : List (Str × V)) :
    Gen.BodiesCDictMeta.cd_ne (self_ := s) (other := other) (eq_other := fun s o => cdEq up s o) = !cdEq up s other :=
  Bodies.cd_ne_eq up s other

theorem body_cd_eq {V : Type} [DecidableEq V] (up : Str → Str) (s : Store V) (other : List (Str × V)) :
    Gen.BodiesCDictMeta.cd_eq (self_ := s) (other := other) (same_object := fun _ _ => false) (has_items := fun _ => true)
      (dict_eq := fun s o => cdEq up s o) = some (cdEq up s other) := Bodies.cd_eq_mapping up s other

/-- the same object is equal; an operand without `items` gives NotImplemented (`none`) -/
theorem body_cd_eq_shape {S O : Type} (s : S) (o : O) (hi : O → Bool) (de : S → O → Bool) :
    Gen.BodiesCDictMeta.cd_eq (self_ := s) (other := o) (same_object := fun _ _ => true) (has_items := hi) (dict_eq := de) = some true ∧
    Gen.BodiesCDictMeta.cd_eq (self_ := s) (other := o) (same_object := fun _ _ => false) (has_items := fun _ => false) (dict_eq := de) = none :=
  Bodies.cd_eq_shape s o hi de

theorem body_cd_sorted_keys {V : Type} (s : Store V) (order : List Str) :
    Gen.BodiesCDictMeta.cd_sorted_keys (self_ := s) (keys := fun s => odKeys s) (canonical_order := fun _ => order)
      (canonsort_keys := fun ks o => canonsort ks o) = canonsort (odKeys s) order := rfl

theorem body_cd_sorted_items {V : Type} (up : Str → Str) (s : Store V) (order : List Str) :
    Gen.BodiesCDictMeta.cd_sorted_items (self_ := s) (canonical_order := fun _ => order)
      (canonsort_items := fun s o => cdSortedItems up s o) = cdSortedItems up s order := rfl

/-- regenerated `canonsort_keys` (dict comprehension over `enumerate(canonical_order or [])`, the filtered
    comprehensions, `sorted(head, key=lambda k: canonical_map[k]) + sorted(tail)`): the call never raises (the key
    function meets only keys of the map) and returns the model's `canonsort`; `None` is the empty order -/
theorem body_canonsort_keys (keys : List Str) (order : Option (List Str)) :
    Gen.BodiesCDictSort.canonsort_keys keys order = .ok (canonsort keys (order.getD [])) :=
  Bodies.canonsort_keys_eq keys order

/-- regenerated `CaselessDict.update(*args, **kwargs)`: `self[key] = value` for every pair of the positional
    mappings in order, then of the keywords - the model's `cdUpdate`; whether a mapping is asked for `.items()` does not
    matter for the pairs; `up = upper ∘ to_unicode` -/
theorem body_cd_update {V : Type} (tu : Str → Str) (s : Store V) (args : List (Bodies.MapArg V)) (kw : Bodies.MapArg V) :
    Bodies.cdUpdateP tu s args kw = .ok (cdUpdate (Bodies.foldKey tu) s (Bodies.allPairs args kw)) :=
  Bodies.cdUpdateP_eq tu s args kw

/-- regenerated `CaselessDict.__init__`: after `super().__init__`, the re-keying loop over the entries IS the model's
    (`if key != key_upper: super().__delitem__(key); self[key_upper] = value`), stated with a deletion that finds its
    key; no hypothesis on `up` -/
theorem body_cd_init_rekey {V : Type} (tu : Str → Str) (args : List (Bodies.MapArg V)) (kw : Bodies.MapArg V) :
    Gen.BodiesCDictMeta.cd_init (self_ := ([] : Store V)) (args := args) (kwargs := kw) (super_init := Bodies.superInitP tu)
      (items := fun s => s) (to_unicode := tu) (super_delitem := fun s k => .ok (odErase s k))
      (set_item := cdSetitem (Bodies.foldKey tu)) = .ok (cdInit (Bodies.foldKey tu) (Bodies.allPairs args kw)) :=
  Bodies.cd_init_model tu args kw

/-- regenerated `CaselessDict.__init__` with the dict's own deletion (KeyError without the key): for an idempotent
    `up` the call never raises and leaves the model's `cdInit` -/
theorem body_cd_init {V : Type} (tu : Str → Str) (up_idem : ∀ k, Bodies.foldKey tu (Bodies.foldKey tu k) = Bodies.foldKey tu k)
    (args : List (Bodies.MapArg V)) (kw : Bodies.MapArg V) :
    Bodies.cdInitP tu args kw = .ok (cdInit (Bodies.foldKey tu) (Bodies.allPairs args kw)) :=
  Bodies.cdInitP_eq tu up_idem args kw

/-- regenerated `CaselessDict.copy` = `type(self)(super().copy())`, the constructor being the regenerated `__init__`:
    the model's `cdCopy` -/
theorem body_cd_copy {V : Type} (tu : Str → Str) (up_idem : ∀ k, Bodies.foldKey tu (Bodies.foldKey tu k) = Bodies.foldKey tu k)
    (s : Store V) : Bodies.cdCopyP tu s = .ok (cdCopy (Bodies.foldKey tu) s) :=
  Bodies.cdCopyP_eq tu up_idem s

end ICal.C17
