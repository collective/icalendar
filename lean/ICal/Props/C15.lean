/-
  C15 — an alarm time is active iff it is not acknowledged at/after its (snoozed) trigger.
  Property theorems only; the model is ICal/Model/Alarm.lean (AlarmTime.acknowledged / is_active /
  trigger, Alarms.active / _alarm_time / add_component), helper lemmas are in ICal/Lemmas/Alarm.lean.
  Instants are arbitrary integers (UTC seconds): every ordering, ties included, of trigger,
  alarm ACKNOWLEDGED, component acknowledgement and snooze is covered, each possibly absent.
  `localize` is the local time zone as an arbitrary function from wall seconds to instants.
-/
import ICal.Lemmas.Alarm
import ICal.Lemmas.BodiesAlarm
namespace ICal.C15
open ICal.Alarms

/-- acknowledged-until is the later of the alarm's ACKNOWLEDGED and the component-level
    acknowledgement: absent iff both are absent, otherwise one of them and not earlier than either. -/
theorem acknowledged_is_later (a : AlarmTime) :
    (a.acknowledged = none ↔ a.alarm.acknowledged = none ∧ a.lastAck = none) ∧
    ∀ k, a.acknowledged = some k →
      (a.alarm.acknowledged = some k ∨ a.lastAck = some k) ∧
      (∀ x, a.alarm.acknowledged = some x → x ≤ k) ∧ (∀ x, a.lastAck = some x → x ≤ k) :=
  ⟨optMax_none_iff _ _, fun k h => optMax_some _ _ k h⟩

/-- The component-level acknowledgement is DTSTAMP, or X-MOZ-LASTACK when the component carries any
    X-MOZ- property; only Thunderbird components carry a snooze (X-MOZ-SNOOZE-TIME). -/
theorem component_ack_wiring (localize : Int → Int) (p : Parent) (start end_ : Option Trig)
    (as : List VAlarm) (tz : Bool) (ts : List AlarmTime)
    (h : times localize (componentState p start end_ as tz) = .ok ts) (x : AlarmTime) (hx : x ∈ ts) :
    x.lastAck = (if p.isThunderbird then p.lastack else p.dtstamp) ∧
    x.snooze = (if p.isThunderbird then p.snoozeTime else none) := by
  have := mem_times_state localize _ ts h x hx
  rw [componentState_eq] at this
  exact ⟨this.1, this.2.1⟩

/-- Whenever `is_active` answers, the answer is: nothing is acknowledged, or the snooze is later than
    the acknowledgement, or the trigger is later than the acknowledgement. -/
theorem active_iff (a : AlarmTime) (b : Bool) (h : a.isActive = .ok b) :
    (b = true ↔
      a.acknowledged = none ∨
      (∃ s k, a.snooze = some s ∧ a.acknowledged = some k ∧ s > k) ∨
      (∃ t k, a.trig = .aware t ∧ a.acknowledged = some k ∧ t > k)) := by
  rw [isActive_eq_spec] at h
  rcases isActiveSpec_cases a.acknowledged a.snooze a.trig with
    ⟨hk, e⟩ | ⟨k, hk, hl, e⟩ | ⟨k, t, hk, hl, ht, e⟩ | ⟨k, _, _, _, e⟩
  · cases e.symm.trans h
    exact ⟨fun _ => Or.inl hk, fun _ => rfl⟩
  · cases e.symm.trans h
    obtain ⟨s, hs, hgt⟩ := snoozedPast_iff.mp hl
    exact ⟨fun _ => Or.inr (Or.inl ⟨s, k, hs, hk, hgt⟩), fun _ => rfl⟩
  · cases e.symm.trans h
    rw [hk, ht]
    constructor
    · intro hb; exact Or.inr (Or.inr ⟨t, k, rfl, rfl, of_decide_eq_true hb⟩)
    · rintro (h0 | ⟨s, k', hs, hk', hgt⟩ | ⟨t', k', ht', hk', hgt⟩)
      · cases h0
      · cases hk'; rw [snoozedPast_iff.mpr ⟨s, hs, hgt⟩] at hl; cases hl
      · cases hk'; cases ht'; exact decide_eq_true hgt
  · cases e.symm.trans h

/-- The decision table as ONE total function of the four optional instants, for every ordering
    (equalities included): with an aware computed trigger `t`, `is_active` never fails and answers
    exactly "nothing acknowledged, or snoozed strictly after the later acknowledgement, or triggered
    strictly after it". -/
theorem active_decision_table (a : AlarmTime) (t : Int) (ht : a.trig = .aware t) :
    a.isActive = .ok (match optMax a.alarm.acknowledged a.lastAck with
      | none => true
      | some k => (match a.snooze with | some s => decide (s > k) | none => false) || decide (t > k)) := by
  rw [isActive_eq_spec, ht]
  unfold isActiveSpec AlarmTime.acknowledged
  cases optMax a.alarm.acknowledged a.lastAck with
  | none => rfl
  | some k =>
    cases a.snooze with
    | none => simp [snoozedPast]
    | some s => by_cases hs : s > k <;> simp [snoozedPast, hs]

/-- The boundary rows of the table: an acknowledgement AT the trigger, or a snooze that ends AT the
    acknowledgement, leaves the alarm inactive. -/
theorem active_equalities (a : AlarmTime) (t k : Int) (ht : a.trig = .aware t)
    (hk : a.acknowledged = some k) :
    (t = k → a.snooze = none → a.isActive = .ok false) ∧
    (t ≤ k → a.snooze = some k → a.isActive = .ok false) ∧
    (∀ s, a.snooze = some s → k < s → a.isActive = .ok true) ∧
    (k < t → a.isActive = .ok true) := by
  have h := active_decision_table a t ht
  unfold AlarmTime.acknowledged at hk
  rw [hk] at h
  refine ⟨?_, ?_, ?_, ?_⟩
  · intro e hs; rw [h, hs]; simp [e]
  · intro e hs; rw [h, hs]; simp; omega
  · intro s hs hlt; rw [h, hs]; simp; left; omega
  · intro hlt; rw [h]; cases a.snooze <;> simp <;> omega

/-- A snooze later than the trigger moves the reported trigger to the snooze time; otherwise the
    reported trigger is the computed one. -/
theorem snooze_moves (a : AlarmTime) (s t : Int) (hs : a.snooze = some s) (ht : a.trig = .aware t) :
    a.trigger = .ok (.aware (if s > t then s else t)) := by
  unfold AlarmTime.trigger
  rw [hs, ht]
  by_cases h : s > t <;> simp [toDatetime, h]

/-- Without a snooze the reported trigger is the computed one, whatever its kind. -/
theorem unsnoozed_trigger (a : AlarmTime) (hs : a.snooze = none) : a.trigger = .ok a.trig := by
  unfold AlarmTime.trigger
  rw [hs]

/-- Snooze clause, complete: the reported trigger of an aware alarm is the later of trigger and
    snooze; in particular a snooze not later than the trigger changes nothing. -/
theorem snooze_reported (a : AlarmTime) (t : Int) (ht : a.trig = .aware t) :
    a.trigger = .ok (.aware (match a.snooze with | some s => max s t | none => t)) := by
  cases hs : a.snooze with
  | none => rw [unsnoozed_trigger a hs, ht]
  | some s =>
    rw [snooze_moves a s t hs ht]
    by_cases h : s > t
    · simp [h]; omega
    · simp [h]; omega

/-- `active_iff` with the *reported* trigger (the snooze time when the alarm is snoozed past its trigger):
    the two readings of "its trigger" agree. -/
theorem active_iff_reported (a : AlarmTime) (b : Bool) (h : a.isActive = .ok b) :
    (b = true ↔
      a.acknowledged = none ∨
      (∃ s k, a.snooze = some s ∧ a.acknowledged = some k ∧ s > k) ∨
      (∃ t k, a.trigger = .ok (.aware t) ∧ a.acknowledged = some k ∧ t > k)) := by
  rw [active_iff a b h]
  -- the readings differ in the last clause; a snooze that replaces the trigger and is later than the
  -- acknowledgement is the second clause
  refine or_congr_right ⟨?_, ?_⟩
  · rintro (h1 | ⟨t, k, ht, hk, hgt⟩)
    · exact Or.inl h1
    · exact Or.inr ⟨_, k, snooze_reported a t ht, hk, by cases a.snooze <;> simp <;> omega⟩
  · rintro (h1 | ⟨t', k, ht', hk, hgt⟩)
    · exact Or.inl h1
    · cases htr : a.trig with
      | aware t =>
        rw [snooze_reported a t htr] at ht'
        cases ht'
        cases hs : a.snooze with
        | none => rw [hs] at hgt; exact Or.inr ⟨t, k, rfl, hk, hgt⟩
        | some s =>
          rw [hs] at hgt
          by_cases hsk : s > k
          · exact Or.inl ⟨s, k, rfl, hk, hsk⟩
          · exact Or.inr ⟨t, k, rfl, hk, by simp at hgt; omega⟩
      | _ => cases hs : a.snooze <;> simp [AlarmTime.trigger, hs, htr, toDatetime] at ht'

/-- The only error of the `trigger` accessor is LocalTimezoneMissing, for a snoozed alarm whose
    computed trigger is floating or a date. -/
theorem trigger_only_error (a : AlarmTime) (e : AErr) (h : a.trigger = .error e) :
    e = .localTimezoneMissing ∧ a.snooze ≠ none ∧ a.trig.isAware = false := by
  unfold AlarmTime.trigger at h
  cases hs : a.snooze with
  | none => rw [hs] at h; cases h
  | some s =>
    rw [hs] at h
    cases ht : a.trig with
    | aware t => rw [ht] at h; simp only [toDatetime] at h; split at h <;> cases h
    | _ => rw [ht] at h; simp [toDatetime] at h; simp [← h, Trig.isAware]

/-- The active list is a sub-list of all times. -/
theorem active_sublist (localize : Int → Int) (s : State) (l : List AlarmTime)
    (h : active localize s = .ok l) :
    ∃ ts, times localize s = .ok ts ∧ l.Sublist ts ∧ ∀ x, x ∈ l ↔ x ∈ ts ∧ x.isActive = .ok true := by
  unfold active at h
  cases ht : times localize s with
  | error e => rw [ht] at h; cases h
  | ok ts =>
    rw [ht] at h
    exact ⟨ts, rfl, filterE_sublist _ _ _ h, filterE_mem _ _ _ h⟩

/-- Moving the acknowledgement later never activates an alarm (and never produces an error that was
    not there): per alarm time, for the effective acknowledgement. -/
theorem ack_monotone (a a' : AlarmTime) (htrig : a.trig = a'.trig) (hsn : a.snooze = a'.snooze)
    (hle : ackLe a.acknowledged a'.acknowledged) (b' : Bool) (h : a'.isActive = .ok b') :
    ∃ b, a.isActive = .ok b ∧ (b' = true → b = true) := by
  rw [isActive_eq_spec] at h ⊢
  rw [htrig, hsn]
  exact isActiveSpec_mono hle h

/-- Moving the component-level acknowledgement (DTSTAMP / X-MOZ-LASTACK / `acknowledge_until`) later:
    every alarm time active afterwards was active before, in the same order. -/
theorem ack_monotone_component (localize : Int → Int) (s : State) (k' : Option Int)
    (hle : ackLe s.lastAck k') (l' : List AlarmTime)
    (h : active localize (acknowledgeUntil s k') = .ok l') :
    ∃ l, active localize s = .ok l ∧ (l'.map AlarmTime.key).Sublist (l.map AlarmTime.key) := by
  unfold active at h ⊢
  rw [times_acknowledgeUntil] at h
  cases ht : times localize s with
  | error e => rw [ht] at h; cases h
  | ok ts =>
    rw [ht] at h
    simp only [Except.map] at h
    -- every element of `ts` carries `s.lastAck`, so its effective acknowledgement can only move later
    refine filterE_map_mono_mem AlarmTime.isActive AlarmTime.isActive (fun x => { x with lastAck := k' }) AlarmTime.key ts
      (fun _ _ => rfl) (fun x hx b' hb' => ack_monotone x { x with lastAck := k' } rfl rfl ?_ b' hb') l' h
    unfold AlarmTime.acknowledged
    rw [(mem_times_state localize s ts ht x hx).1]
    exact optMax_mono_right _ _ _ hle

/-- Moving an alarm's own ACKNOWLEDGED later never activates its alarm times either. -/
theorem ack_monotone_alarm (a : AlarmTime) (k' : Option Int) (hle : ackLe a.alarm.acknowledged k')
    (b' : Bool) (h : ({ a with alarm := { a.alarm with acknowledged := k' } } : AlarmTime).isActive = .ok b') :
    ∃ b, a.isActive = .ok b ∧ (b' = true → b = true) :=
  ack_monotone a { a with alarm := { a.alarm with acknowledged := k' } } rfl rfl
    (by unfold AlarmTime.acknowledged; exact optMax_mono_left _ _ _ hle) b' h

/-- "Moving an acknowledgement later never activates an alarm", for both acknowledgements at
    once: the alarm's own ACKNOWLEDGED and the component-level one may both move later (or appear);
    what was inactive stays inactive, what is active afterwards was active before. -/
theorem ack_monotone_both (a : AlarmTime) (x' y' : Option Int)
    (hx : ackLe a.alarm.acknowledged x') (hy : ackLe a.lastAck y') (b' : Bool)
    (h : ({ a with alarm := { a.alarm with acknowledged := x' }, lastAck := y' } : AlarmTime).isActive = .ok b') :
    ∃ b, a.isActive = .ok b ∧ (b' = true → b = true) := by
  exact ack_monotone a { a with alarm := { a.alarm with acknowledged := x' }, lastAck := y' } rfl rfl
    (ackLe_trans (optMax_mono_left a.lastAck _ _ hx) (optMax_mono_right x' _ _ hy)) b' h

/-- The only error of `is_active` is LocalTimezoneMissing, and only for an acknowledged alarm whose
    computed trigger is floating or a date (no local time zone was applied). -/
theorem only_error (a : AlarmTime) (e : AErr) (h : a.isActive = .error e) :
    e = .localTimezoneMissing ∧ a.trig.isAware = false ∧ a.acknowledged ≠ none := by
  rw [isActive_eq_spec] at h
  rcases isActiveSpec_cases a.acknowledged a.snooze a.trig with
    ⟨_, e⟩ | ⟨k, _, _, e⟩ | ⟨k, t, _, _, _, e⟩ | ⟨k, hk, _, ht, e⟩
  · cases e.symm.trans h
  · cases e.symm.trans h
  · cases e.symm.trans h
  · cases e.symm.trans h
    rw [hk]
    exact ⟨rfl, ht, nofun⟩

/-- `Alarms.active` fails only where `times` fails (C14's documented errors), or with
    LocalTimezoneMissing when no local time zone is set and some alarm time is floating or a date. -/
theorem only_error_alarms (localize : Int → Int) (s : State) (e : AErr)
    (h : active localize s = .error e) :
    times localize s = .error e ∨
    (e = .localTimezoneMissing ∧ s.localTz = false ∧
      ∃ ts, times localize s = .ok ts ∧ ∃ x ∈ ts, x.trig.isAware = false) := by
  unfold active at h
  cases ht : times localize s with
  | error e' => rw [ht] at h; exact Or.inl h
  | ok ts =>
    rw [ht] at h
    obtain ⟨x, hx, hp⟩ := filterE_error _ _ _ h
    obtain ⟨he, hna, _⟩ := only_error x e hp
    refine Or.inr ⟨he, ?_, ts, rfl, x, hx, hna⟩
    have := (mem_times_state localize s ts ht x hx).2.2
    cases hl : s.localTz with
    | false => rfl
    | true => rw [this hl] at hna; cases hna

/-- With a local time zone set, `active` answers whenever `times` does. -/
theorem local_timezone_suffices (localize : Int → Int) (s : State) (hl : s.localTz = true)
    (ts : List AlarmTime) (h : times localize s = .ok ts) : ∃ l, active localize s = .ok l := by
  cases ha : active localize s with
  | ok l => exact ⟨l, rfl⟩
  | error e =>
    rcases only_error_alarms localize s e ha with h1 | ⟨_, h2, _⟩
    · rw [h] at h1; cases h1
    · rw [hl] at h2; cases h2

/-! Non-vacuity: every branch of the decision table is inhabited, ties included. -/
-- acknowledged exactly at the trigger: not active (the comparison is strict)
example : ({ alarm := { acknowledged := some 10 }, trig := .aware 10 } : AlarmTime).isActive = .ok false := by decide +kernel
-- the later of the two acknowledgements counts
example : ({ alarm := { acknowledged := some 5 }, trig := .aware 10, lastAck := some 12 } : AlarmTime).isActive = .ok false := by decide
example : ({ alarm := { acknowledged := some 5 }, trig := .aware 10, lastAck := some 7 } : AlarmTime).isActive = .ok true := by decide +kernel
-- snoozed past the acknowledgement: active although the trigger is acknowledged, reported at the snooze time
example : ({ alarm := {}, trig := .aware 10, lastAck := some 12, snooze := some 13 } : AlarmTime).isActive = .ok true := by decide
example : ({ alarm := {}, trig := .aware 10, lastAck := some 12, snooze := some 13 } : AlarmTime).trigger = .ok (.aware 13) := by decide +kernel
-- a snooze earlier than the trigger leaves the reported trigger alone
example : ({ alarm := {}, trig := .aware 10, snooze := some 7 } : AlarmTime).trigger = .ok (.aware 10) := by decide +kernel
-- snooze equal to the acknowledgement does not reactivate
example : ({ alarm := {}, trig := .aware 10, lastAck := some 12, snooze := some 12 } : AlarmTime).isActive = .ok false := by decide +kernel
example : ({ alarm := { acknowledged := some 10 }, trig := .aware 10, lastAck := some 10, snooze := some 10 } : AlarmTime).isActive
    = .ok false := by decide +kernel
-- floating and date triggers without a local time zone
example : ({ alarm := {}, trig := .floating 10, lastAck := some 12 } : AlarmTime).isActive = .error .localTimezoneMissing := by decide
example : ({ alarm := {}, trig := .date 3, lastAck := some 12 } : AlarmTime).isActive = .error .localTimezoneMissing := by decide
example : ({ alarm := {}, trig := .date 3 } : AlarmTime).isActive = .ok true := by decide +kernel
-- a Thunderbird component uses X-MOZ-LASTACK, not DTSTAMP; with a local time zone the date trigger is decided
example : (active (fun w => w - 3600)
    (componentState { dtstamp := some 0, lastack := some 400000 } (some (.date 5)) none
      [{ trigger := some (.rel (-86400)) }, { trigger := some (.rel 0) }] true)).map (·.map AlarmTime.key)
    = .ok [({ trigger := some (.rel 0) }, .aware 428400)] := by decide
example : ackLe (some 3) (some 3) ∧ ackLe none (some 0) := by simp [ackLe]
example : ackLe (some 3) (some 4) ∧ ackLe none (some 1) := by simp [ackLe]

/-! ## Regenerated function bodies = hand model

  `ICal.Gen.BodiesAlarm.AlarmTime_*` are written by tools/py2lean.py from the current source text of
  `AlarmTime.acknowledged`, `.trigger` and `.is_active` on every run.  The translated code works on
  date/datetime OBJECTS (the hand model's `Trig`): `>`, `max`, `.tzinfo is None` are Python's partial
  operations (ICal/Model/PyRTAlarm.lean), a test for None is a `match`, `raise LocalTimezoneMissing`
  is an exception value.  Parameters: `self._last_ack`, `self._snooze_until`, `self._trigger`,
  `self.alarm.ACKNOWLEDGED` (cal.Alarm, external) and the function `tools.to_datetime`.  The theorems
  prove them equal to the model's `acknowledged`, `trigger`, `isActive` (every theorem above is about
  these), with the optional UTC instants of the model given as aware datetimes (`Bodies.awareO`) and
  the model's errors as the Python exception classes (`Bodies.liftA`). -/

theorem body_alarmtime_acknowledged (a : AlarmTime) :
    Gen.BodiesAlarm.AlarmTime_acknowledged (alarm_acknowledged := Bodies.awareO a.alarm.acknowledged) (last_ack := Bodies.awareO a.lastAck) =
      .ok (Bodies.awareO a.acknowledged) :=
  Bodies.AlarmTime_acknowledged_eq a

theorem body_alarmtime_trigger (a : AlarmTime) :
    Gen.BodiesAlarm.AlarmTime_trigger (snooze_until := Bodies.awareO a.snooze) (trigger_raw := a.trig) (to_datetime := toDatetime) = Bodies.liftA a.trigger :=
  Bodies.AlarmTime_trigger_eq a

theorem body_alarmtime_is_active (a : AlarmTime) :
    Gen.BodiesAlarm.AlarmTime_is_active (alarm_acknowledged := Bodies.awareO a.alarm.acknowledged) (last_ack := Bodies.awareO a.lastAck)
        (snooze_until := Bodies.awareO a.snooze) (trigger_raw := a.trig) (to_datetime := toDatetime) = Bodies.liftA a.isActive :=
  Bodies.AlarmTime_is_active_eq a

/-- `Alarms.active`: the comprehension `[t for t in self.times if t.is_active()]` (its list and the
    method are parameters) is the model's `filterE` -/
theorem body_alarms_active (ts : List AlarmTime) :
    Gen.BodiesAlarm.Alarms_active ts (fun x => Bodies.liftA x.isActive) = Bodies.liftA (filterE AlarmTime.isActive ts) :=
  Bodies.Alarms_active_eq ts

end ICal.C15
