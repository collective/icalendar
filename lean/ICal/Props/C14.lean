/-
  C14 — alarm times = anchor ⊕ TRIGGER ⊕ k·DURATION.
  Property theorems only; the model is ICal/Model/Alarm.lean (Alarm.triggers, Alarms.add_component /
  add_alarm / _add / _repeat / _alarm_time / times), the vocabulary (`series`, `expected`, `expectedRel`,
  `expectedAbs`, `componentState`) and the helper lemmas are in ICal/Lemmas/Alarm.lean.

  `add x td` (`x ⊕ td`) is date arithmetic for a date and a whole-day delta, wall-clock arithmetic on
  the naive midnight for a date and any other delta, wall-clock arithmetic for a floating time and
  exact elapsed time for an aware one. The component's start and end are inputs (C16 derives them).
  `wallclock_exact_iff` says when zoneinfo's wall-clock `+` on an aware value gives that same instant,
  `zoneinfo_dst_witness` is the known finding zoneinfo-wallclock-dst (Europe/Berlin, 2020-03-29T03:30
  with TRIGGER -PT2H).
-/
import ICal.Lemmas.Alarm
import ICal.Lemmas.BodiesAlarm
import ICal.Lemmas.BodiesAlarmTimes
namespace ICal.C14
open ICal.Alarms

/-- `_repeat`: the first time, then REPEAT further times spaced by DURATION, when both are present
    (a zero DURATION counts as present, REPEAT 0 or negative gives none). -/
theorem repeat_spec (first : Trig) (a : VAlarm) :
    repeatTimes first a = (List.range (a.reps + 1)).map (fun (k : Nat) => add first (a.dur * (k : Int))) :=
  repeatTimes_eq_series first a

/-- The computed times are, alarm by alarm and in the order end-relative / start-relative / absolute,
    `[a ⊕ k·D | k ≤ R]` with `a = end ⊕ T`, `start ⊕ T` or the absolute `T`, and `R = REPEAT` if both
    REPEAT and DURATION are present, else 0; a set local time zone is then applied to floating and date
    results. (`expected` is spelled out by `expected_def`.) -/
theorem times_spec (localize : Int → Int) (p : Parent) (start end_ : Option Trig) (as : List VAlarm)
    (tz : Bool) (ts : List AlarmTime)
    (h : times localize (componentState p start end_ as tz) = .ok ts) :
    ts.map AlarmTime.key =
      (expected start end_ as).map (fun q => (q.1, applyLocal localize tz q.2)) := by
  have hk := times_key localize (componentState p start end_ as tz) ts
  rw [componentState_eq] at hk h
  have := hk (by intro a ha; exact (List.mem_filter.mp ha).2) h
  simpa [expected] using this

/-- what `expected` is: the contribution of each alarm -/
theorem expected_def (start end_ : Option Trig) (as : List VAlarm) :
    expected start end_ as =
      (as.filter VAlarm.isEndRel).flatMap (expectedRel end_) ++
      (as.filter VAlarm.isStartRel).flatMap (expectedRel start) ++
      (as.filter VAlarm.isAbsolute).flatMap expectedAbs ∧
    (∀ (x : Trig) (a : VAlarm) (td : Int), a.trigger = some (.rel td) →
      expectedRel (some x) a =
        (List.range (a.reps + 1)).map (fun (k : Nat) => (a, add (add x td) (a.dur * (k : Int))))) ∧
    (∀ (a : VAlarm) (t : TriggerV), a.trigger = some t → t.isAbs = true →
      expectedAbs a =
        (List.range (a.reps + 1)).map (fun (k : Nat) => (a, add t.toTrig (a.dur * (k : Int))))) := by
  refine ⟨rfl, ?_, ?_⟩
  · intro x a td h
    simp [expectedRel, h, series, List.map_map, Function.comp_def]
  · intro a t h habs
    simp [expectedAbs, h, habs, series, List.map_map, Function.comp_def]

/-- Alarms without a TRIGGER contribute nothing; every computed time belongs to an alarm of the
    component that has a TRIGGER. -/
theorem no_trigger_no_time (localize : Int → Int) (p : Parent) (start end_ : Option Trig)
    (as : List VAlarm) (tz : Bool) (ts : List AlarmTime)
    (h : times localize (componentState p start end_ as tz) = .ok ts) (x : AlarmTime) (hx : x ∈ ts) :
    x.alarm ∈ as ∧ x.alarm.trigger ≠ none := by
  obtain ⟨a, t, rfl, hcls⟩ := mem_times h hx
  rw [componentState_eq] at hcls
  show a ∈ as ∧ a.trigger ≠ none
  rcases hcls with ⟨ha, td, htr⟩ | ha
  · refine ⟨ha.elim (fun h => (List.mem_filter.mp h).1) (fun h => (List.mem_filter.mp h).1), ?_⟩
    rw [htr]; nofun
  · refine ⟨(List.mem_filter.mp ha).1, fun hn => ?_⟩
    simpa [VAlarm.isAbsolute, hn] using (List.mem_filter.mp ha).2

/-- `Alarm.triggers` (cumulative sums `add[-1] + DURATION`) is the multiplicative sequence
    `T + k·D`, `k ≤ R`, in the list selected by the kind of TRIGGER and its RELATED parameter. -/
theorem triggers_agree (a : VAlarm) :
    a.triggers =
      match a.trigger with
      | none => ⟨[], [], []⟩
      | some (.rel td) =>
        let seq := (List.range (a.reps + 1)).map (fun (k : Nat) => td + a.dur * (k : Int))
        if a.triggerRelated = START then ⟨seq, [], []⟩ else ⟨[], seq, []⟩
      | some t => ⟨[], [], series t.toTrig a⟩ := by
  unfold VAlarm.triggers
  cases ht : a.trigger with
  | none => rfl
  | some t =>
    cases t with
    | rel td => simp only [cumul_int]; rfl
    | _ => simp only [cumul_trig _ (toTrig_not_date _)]; rfl

/-- The two code paths agree: for a start or end that is a date-time, the times `Alarms` computes for a
    relative alarm are the anchor plus each entry of `Alarm.triggers`. -/
theorem triggers_times_agree (x : Trig) (hx : x.isDate = false) (a : VAlarm) (td : Int) :
    series (add x td) a =
      ((List.range (a.reps + 1)).map (fun (k : Nat) => td + a.dur * (k : Int))).map (add x) := by
  unfold series
  rw [List.map_map]
  apply List.map_congr_left
  intro k _
  have h1 : (add x td).isDate = false := by cases x <;> simp_all [add, pyAdd, Trig.isDate]
  simp only [Function.comp]
  rw [add_eq_pyAdd _ h1, add_eq_pyAdd _ hx, add_eq_pyAdd _ hx, pyAdd_pyAdd _ hx]

/-- Absolute alarms do not depend on the component's times: the absolute part of `times` is the same
    for any two starts/ends for which `times` answers. -/
theorem absolute_independent (localize : Int → Int) (p : Parent) (start end_ start' end' : Option Trig)
    (as : List VAlarm) (tz : Bool) (ts ts' : List AlarmTime)
    (h : times localize (componentState p start end_ as tz) = .ok ts)
    (h' : times localize (componentState p start' end' as tz) = .ok ts') :
    ts.filter (fun x => x.alarm.isAbsolute) = ts'.filter (fun x => x.alarm.isAbsolute) := by
  have hwf : ∀ st en, ∀ a ∈ (componentState p st en as tz).absoluteAlarms, a.isAbsolute = true := by
    intro st en a ha
    rw [componentState_eq] at ha
    exact (List.mem_filter.mp ha).2
  rw [times_filter_absolute (hwf _ _) h, times_filter_absolute (hwf _ _) h', componentState_eq, componentState_eq]
  rfl

/-- `times` answers exactly when every anchor that some alarm needs is present. -/
theorem times_defined_iff (localize : Int → Int) (p : Parent) (start end_ : Option Trig)
    (as : List VAlarm) (tz : Bool) :
    (∃ ts, times localize (componentState p start end_ as tz) = .ok ts) ↔
      (end_ ≠ none ∨ ∀ a ∈ as, a.isEndRel = false) ∧ (start ≠ none ∨ ∀ a ∈ as, a.isStartRel = false) := by
  rw [times_ok_iff, componentState_eq]
  simp only [List.filter_eq_nil_iff, Bool.not_eq_true]

/-- A component with only absolute (or TRIGGER-less) alarms needs neither start nor end. -/
theorem absolute_only_total (localize : Int → Int) (p : Parent) (start end_ : Option Trig)
    (as : List VAlarm) (tz : Bool)
    (habs : ∀ a ∈ as, a.isStartRel = false ∧ a.isEndRel = false) :
    ∃ ts, times localize (componentState p start end_ as tz) = .ok ts := by
  exact (times_defined_iff localize p start end_ as tz).mpr
    ⟨Or.inr fun a ha => (habs a ha).2, Or.inr fun a ha => (habs a ha).1⟩

/-- Missing start or end information is reported by the documented errors only, and exactly when an
    alarm needs the missing anchor: ComponentEndMissing when the end is missing and some alarm is
    end-relative; otherwise ComponentStartMissing when the start is missing and some alarm is
    start-relative. -/
theorem errors_documented (localize : Int → Int) (p : Parent) (start end_ : Option Trig)
    (as : List VAlarm) (tz : Bool) (e : AErr)
    (h : times localize (componentState p start end_ as tz) = .error e) :
    (e = .componentEndMissing ∧ end_ = none ∧ ∃ a ∈ as, a.isEndRel = true) ∨
    (e = .componentStartMissing ∧ start = none ∧ ∃ a ∈ as, a.isStartRel = true) := by
  have pick : ∀ {q : VAlarm → Bool}, as.filter q ≠ [] → ∃ a ∈ as, q a = true := by
    intro q hne
    obtain ⟨a, ha⟩ := List.exists_mem_of_ne_nil _ hne
    exact ⟨a, List.mem_filter.mp ha⟩
  have := times_error localize _ e h
  rw [componentState_eq] at this
  exact this.imp (fun ⟨he, hen, hne⟩ => ⟨he, hen, pick hne⟩) (fun ⟨he, hst, hne⟩ => ⟨he, hst, pick hne⟩)

/-- zoneinfo's wall-clock `aware + timedelta` gives the exact-elapsed-time instant iff the zone assigns
    the same UTC offset to the wall time of the result as to the wall time of the anchor. -/
theorem wallclock_exact_iff (offW : Int → Int) (w td : Int) :
    wallAdd offW w td = instantOf offW w + td ↔ offW (w + td) = offW w := by
  unfold wallAdd instantOf
  constructor <;> intro h <;> omega

/-- Known finding zoneinfo-wallclock-dst: Europe/Berlin, start 2020-03-29T03:30 (+02:00), TRIGGER -PT2H.
    Wall-clock arithmetic gives 01:30 (+01:00) = 00:30Z, one hour after the exact 23:30Z. -/
theorem zoneinfo_dst_witness :
    wallAdd berlinSpring2020 1585452600 (-7200) = instantOf berlinSpring2020 1585452600 + (-7200) + 3600 := by
  decide

/-! Non-vacuity. -/
-- date start, whole-day trigger stays a date; a 12 h DURATION alternates floating / date; lower-case
-- "end" (any value but START in any case) is end-relative; an absolute alarm; REPEAT 2 with a zero DURATION;
-- an alarm without TRIGGER contributes nothing
example : (times (fun w => w) (componentState {} (some (.date 10)) (some (.date 11))
      [ { trigger := some (.rel (-86400)), rep := 2, duration := some 43200 },
        { trigger := none, rep := 3, duration := some 60 },
        { trigger := some (.rel 3600), related := some ['e', 'n', 'd'] },
        { trigger := some (.absAware 5), rep := 2, duration := some 0 } ] false)).map
      (·.map (·.trig))
    = .ok [ .floating (11 * 86400 + 3600),
            .date 9, .floating (9 * 86400 + 43200), .date 10,
            .aware 5, .aware 5, .aware 5 ] := by decide +kernel
-- RELATED is compared case-insensitively with START; every other value counts as END
example : ({ trigger := some (.rel 0), related := some ['s', 't', 'a', 'r', 't'] } : VAlarm).isStartRel = true := by decide
example : ({ trigger := some (.rel 0), related := some ['S', 't', 'a', 'r', 't'] } : VAlarm).isStartRel = true := by decide
example : ({ trigger := some (.rel 0), related := some ['e', 'n', 'd'] } : VAlarm).isEndRel = true := by decide
example : ({ trigger := some (.rel 0), related := some ['x'] } : VAlarm).isEndRel = true := by decide
example : ({ trigger := some (.rel 0) } : VAlarm).isStartRel = true := by decide +kernel
-- the documented errors, end first
example : times (fun w => w) (componentState {} none none
      [ { trigger := some (.rel 0) }, { trigger := some (.rel 0), related := some ['E', 'N', 'D'] } ] false)
    = .error .componentEndMissing := by decide
example : times (fun w => w) (componentState {} none (some (.aware 0))
      [ { trigger := some (.rel 0) }, { trigger := some (.rel 0), related := some ['E', 'N', 'D'] } ] false)
    = .error .componentStartMissing := by decide +kernel
-- REPEAT without DURATION, and DURATION without REPEAT: no repeats
example : series (.aware 100) { trigger := some (.rel 0), rep := 3 } = [.aware 100] := by decide
example : series (.aware 100) { trigger := some (.rel 0), duration := some 60 } = [.aware 100] := by decide
example : series (.aware 100) { trigger := some (.rel 0), rep := 2, duration := some 60 }
    = [.aware 100, .aware 160, .aware 220] := by decide
example : ({ trigger := some (.rel (-14400)), rep := 2, duration := some 3600 } : VAlarm).triggers
    = ⟨[-14400, -10800, -7200], [], []⟩ := by decide +kernel

/-! ## Regenerated function bodies = hand model

  `ICal.Gen.BodiesAlarm.*` (tools/py2lean.py, from the current source on every run): `tools.is_date`,
  `tools.is_datetime` (`isinstance(dt, date) and not isinstance(dt, datetime)` on the value type `Trig`),
  `Alarms._add` (a timedelta is the model's `Int` of seconds, `td.seconds` its remainder mod 86400;
  `to_datetime`, `normalize_pytz` are function parameters, the latter the identity on the model's
  values) and `Alarms._repeat` (a generator: the list of what it yields; `for i in range(1, repeat + 1)`
  as a fold over the range; `alarm.REPEAT`, `alarm.DURATION` are parameters). -/

theorem body_is_date (t : Trig) : Gen.BodiesAlarm.is_date t = t.isDate := Bodies.is_date_eq t

theorem body_is_datetime (t : Trig) : Gen.BodiesAlarm.is_datetime t = !t.isDate := Bodies.is_datetime_eq t

theorem body_alarms_add (dt : Trig) (td : Int) : Gen.BodiesAlarm.Alarms_add (dt := dt) (td := td) (to_datetime := toDatetime) (normalize_pytz := id) = add dt td :=
  Bodies.Alarms_add_eq dt td

theorem body_alarms_repeat (first : Trig) (a : VAlarm) :
    Gen.BodiesAlarm.Alarms_repeat (first := first) (alarm_repeat := a.rep) (alarm_duration := a.duration) (to_datetime := toDatetime)
      (normalize_pytz := id) = .ok (repeatTimes first a) :=
  Bodies.Alarms_repeat_eq first a

/-- the regenerated `Alarms._alarm_time` is the model's `alarmTime` (the local time zone applied to a trigger without tzinfo) -/
theorem body_alarms_alarm_time (loc : Int → Int) (s : State) (a : VAlarm) (t : Trig) :
    Gen.BodiesAlarm.Alarms_alarm_time (alarm := a) (trigger := t) (local_tzinfo := Bodies.localTzP s) (to_datetime := toDatetime)
      (localize := Bodies.localizeP loc) (normalize_pytz := id) (last_ack := Bodies.awareOpt s.lastAck)
      (snooze_until := Bodies.awareOpt s.snooze) (parent := ()) (mk_alarm_time := Bodies.mkATP) = Bodies.toATup (alarmTime loc s a t) :=
  Bodies.alarm_time_eq loc s a t

/-- the regenerated `Alarms.times` (with `_get_end_alarm_times`, `_get_start_alarm_times`, `_get_absolute_alarm_times`,
    `_alarm_time`, `_repeat`, `_add`) is the model's `times`, on every state whose lists are sorted as `add_alarm` sorts them -/
theorem body_alarms_times (loc : Int → Int) (s : State) (h : Bodies.Sorted s) :
    Bodies.timesP loc s = Bodies.liftA ((times loc s).map (List.map Bodies.toATup)) :=
  Bodies.times_eq loc s h

/-- every state `Alarms(component)` builds is sorted so -/
theorem body_alarms_sorted (p : Parent) (start end_ : Option Trig) (alarms : List VAlarm) :
    Bodies.Sorted (ofComponent p start end_ alarms) :=
  Bodies.sorted_ofComponent p start end_ alarms

/-- and the setters called afterwards keep it -/
theorem body_alarms_sorted_setters (s : State) (h : Bodies.Sorted s) (b : Bool) (o o' : Option Int) :
    Bodies.Sorted (snoozeUntil (acknowledgeUntil (setLocalTimezone s b) o) o') :=
  ⟨h.abs, h.start, h.end_⟩

/-- the regenerated `Alarms.add_alarm` is the model's `addAlarm` (which list an alarm goes to) -/
theorem body_alarms_add_alarm (s : State) (a : VAlarm) :
    Bodies.addAlarmP a s.absoluteAlarms s.startAlarms s.endAlarms =
      ((addAlarm s a).absoluteAlarms, (addAlarm s a).startAlarms, (addAlarm s a).endAlarms) :=
  Bodies.add_alarm_eq s a

/-- the regenerated `Alarms.add_component` (with `set_parent`, `set_start`, `set_end`, `acknowledge_until`, `snooze_until`,
    `add_alarm`: functions from the attributes before to the attributes after) is the model's `addComponent` -/
theorem body_alarms_add_component (s : State) (par : Option Bodies.CompView) (c : Bodies.CompView) :
    Bodies.alarmsAddComponentP c (Bodies.fieldsOf s par) =
      .ok (Bodies.fieldsOf (addComponent s c.parent c.start c.end_ c.alarms) (some c)) :=
  Bodies.add_component_eq s par c

/-- the chain as translated, `Alarms(component).times`: `add_component` on the empty object, then `times`, is the model's -/
theorem body_alarms_component_times (loc : Int → Int) (c : Bodies.CompView) :
    (Bodies.alarmsAddComponentP c (Bodies.fieldsOf {} none) >>= Bodies.timesF loc false) =
      Bodies.liftA ((times loc (ofComponent c.parent c.start c.end_ c.alarms)).map (List.map Bodies.toATup)) :=
  Bodies.add_component_times loc {} none c Bodies.sorted_empty

end ICal.C14
