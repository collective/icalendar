/-
  C02 — a calendar built through the API survives serialise and parse: the encoding side.
  Model: ICal/Model/Encode.lean (`Component._encode` / `add`, item assignment, descriptors,
  `add_component`, the constructors that derive VALUE / TZID), tied to /repo by correspondence
  (harness/props/C02.py) and, for the tables, by translation (`Gen.typesMap`, `Gen.typeRegistry`,
  `Gen.addUtcNames`, `Gen.addListNames`, regenerated every run).  Spec side: `rfc5545Props`,
  written from RFC 5545 sections 3.7-3.8.

  Property theorems only; helper lemmas and `addAll`, `Stored.vals`, `Stored.isMany` are in
  ICal/Lemmas/Encode.lean.

  Recorded findings (full statement as a `def`, proved `_partial`, refuted by a `_witness`):
    * absolute-trigger-no-value     `value_param_full`  (TRIGGER with a datetime carries no VALUE=DATE-TIME;
                                     a bare (start, end) tuple given to RDATE is iterated as two values)
    * mixed-zone-list               `tzid_list_full`    (one TZID for the whole list: the last zone wins)
    * one-element-list-vs-scalar    `islist_full`       (a single add of a one-element list stores a list)
    * value-param-ignored-on-parse  `encode_class_full`, `types_alternatives_full`
                                    (an already-typed value keeps its class, the parser picks the class by
                                     name only: ATTACH;VALUE=BINARY is read as URI)
  Oracle-only findings (outside this model): value-unescape-nontext (the line layer, C05) and
  tzname-param-rejected (VTIMEZONE interpretation by the zoneinfo provider, C12).

  `api_roundtrip` composes the encoding side with C01 (`parse_toIcal`): trees built by scalar
  `add` calls lie in C01's domain, so parsing their serialisation returns them.
-/
import ICal.Lemmas.Encode
import ICal.Props.C01
import ICal.Lemmas.BodiesAdd
import ICal.Lemmas.BodiesDDDLists
import ICal.Lemmas.BodiesDDDInit
import ICal.Lemmas.BodiesPeriodInit
namespace ICal.C02
open ICal.Enc

/-! ## Clause 2: every RFC 5545 property name is decoded with the value type the RFC assigns -/

/-- For each of the 46 property names of RFC 5545 sections 3.7-3.8: the key `types_map` gives the
    name IS the RFC's default value type (`date-time-list` / `categories` / `geo` read as
    DATE-TIME / TEXT / FLOAT), and the class registered under the key reads and writes that type
    (vDDDTypes and vDDDLists cover DATE, DATE-TIME, TIME, DURATION and PERIOD, told apart by the
    shape of the text).  Kernel-checked over the generated tables. -/
theorem types_table : ∀ r ∈ rfc5545Props,
    keyType (typeKey r.name) = some r.default ∧ r.default ∈ classTypes (forProperty r.name) :=
  fun r hr => (rfc5545_rows r hr).1

/-- Names outside the table (IANA and X- properties) get TEXT, the RFC's default for them. -/
theorem types_default (n : Str) (h : ∀ kv ∈ Gen.typesMap, (upper kv.1 == upper n) = false) :
    keyType (typeKey n) = some .text := by
  unfold typeKey
  rw [List.find?_eq_none.mpr]
  · decide +kernel
  · intro kv hkv; simp [h kv (List.mem_reverse.mp hkv)]

/-- full statement: the class also reads every alternative value type the RFC allows -/
def types_alternatives_full : Prop :=
  ∀ r ∈ rfc5545Props, ∀ τ ∈ r.alts, τ ∈ classTypes (forProperty r.name)

/-- ... true for every alternative except BINARY (DATE for DTSTART DTEND DUE RECURRENCE-ID EXDATE
    RDATE, PERIOD for RDATE, DATE-TIME for TRIGGER) -/
theorem types_alternatives_partial :
    ∀ r ∈ rfc5545Props, ∀ τ ∈ r.alts, τ ≠ .binary → τ ∈ classTypes (forProperty r.name) :=
  fun r hr => (rfc5545_rows r hr).2.1

/-- ATTACH is always read by vUri: an `ATTACH;VALUE=BINARY` comes back as a URI
    (finding value-param-ignored-on-parse) -/
theorem types_alternatives_witness : ¬ types_alternatives_full := by
  intro h
  exact absurd (h ⟨"ATTACH".toList, .uri, [.binary], false⟩ (by decide +kernel) .binary (by decide +kernel)) (by decide +kernel)

/-! ## Which class encodes a value -/

/-- A value that is not already typed is encoded by the class of its property name — the same
    `for_property(name)` the parser uses for the line (`pstep`), so it is read back by the class
    that wrote it.  (`ValOK`'s first half in C01.) -/
theorem encode_class (n : Str) (v : PyVal) (upd : List (Str × Option PVal)) (val : Val)
    (hv : keptTyped v = none) (h : encodeOne n v upd = .ok val) : val.kind = forProperty n :=
  encodeOne_kind n v upd val hv h

/-- full statement: every encoded value is an instance of its name's class -/
def encode_class_full : Prop :=
  ∀ (n : Str) (v : PyVal) (upd : List (Str × Option PVal)) (val : Val),
    encodeOne n v upd = .ok val → val.kind = forProperty n

/-- an already-typed value is kept: `add('attach', vBinary(...))` stores a vBinary under a name
    the parser reads with vUri -/
theorem encode_class_witness : ¬ encode_class_full := by
  intro h
  exact absurd (h "attach".toList (.binary "aGk=".toList) [] (binaryVal "aGk=".toList) (by decide +kernel)) (by decide +kernel)

/-! ## Clause 3a: a value that is not of the default type carries VALUE -/

def HasParam (val : Val) (k x : Str) : Prop := Params.get? val.params k = some (.one x)
instance (val : Val) (k x : Str) : Decidable (HasParam val k x) := by unfold HasParam; infer_instance

/-- full statement, for scalar values: whenever a value of an alternative type τ of property r is
    encoded, the result carries VALUE=τ -/
def value_param_full : Prop :=
  ∀ r ∈ rfc5545Props, ∀ τ ∈ r.alts, ∀ (v : PyVal) (val : Val),
    (valueKind v).rfcType = some τ → encodeOne r.name v [] = .ok val → HasParam val kVALUE τ.valueName

/-- Proved part: every alternative of every RFC property except the absolute TRIGGER and the
    bare-tuple PERIOD: a DATE under DTSTART DTEND DUE RECURRENCE-ID (vDDDTypes) and under
    EXDATE RDATE (vDDDLists, one value) carries VALUE=DATE; a vBinary under ATTACH carries
    VALUE=BINARY. -/
theorem value_param_partial : ∀ r ∈ rfc5545Props, ∀ τ ∈ r.alts, r.name ≠ nTRIGGER → τ ≠ .period →
    ∀ (v : PyVal) (val : Val), (valueKind v).rfcType = some τ → encodeOne r.name v [] = .ok val →
      HasParam val kVALUE τ.valueName := by
  intro r hr τ hτ hn hp v val hk h
  rcases (rfc5545_rows r hr).2.2 τ hτ hn hp with ⟨rfl, hc⟩ | rfl
  · obtain ⟨d, rfl⟩ := kind_date_inv v hk
    rcases hc with hc | hc
    · simp only [encodeOne, keptTyped, hc, construct1_cDDD, mkDDD] at h
      injection h with h; subst h; rfl
    · simp only [encodeOne, keptTyped, hc, construct1_cDDDLists] at h
      injection h with h; subst h; rfl
  · obtain ⟨b, rfl⟩ := kind_binary_inv v hk
    simp only [encodeOne, keptTyped] at h
    injection h with h; subst h; rfl

private def utcNoon : DT := ⟨⟨⟨2020, 1, 1⟩, 12, 0, 0⟩, some UTC, ⟨⟨2020, 1, 1⟩, 12, 0, 0⟩⟩
private def naiveNoon : DT := ⟨⟨⟨2020, 1, 1⟩, 12, 0, 0⟩, none, ⟨⟨2020, 1, 1⟩, 12, 0, 0⟩⟩

/-- `alarm.add('trigger', datetime(2020, 1, 1, 12, tzinfo=UTC))` is written `TRIGGER:20200101T120000Z`,
    without VALUE=DATE-TIME (finding absolute-trigger-no-value) -/
theorem value_param_witness : ¬ value_param_full := by
  intro h
  -- the TRIGGER row by its place in the table: found by comparison, every name before it would be decoded
  have := h rfc5545Props[40] (List.getElem_mem _) .dateTime (by decide +kernel)
    (.atom (.dt utcNoon)) ⟨cDDD, "20200101T120000Z".toList, []⟩ (by decide +kernel) (by decide +kernel)
  revert this; decide +kernel

/-- The other excluded case: a bare `(start, duration)` tuple given to RDATE is iterated by
    vDDDLists as two values; the line is `RDATE:20200101T120000,PT1H` without VALUE. -/
theorem value_param_witness_tuple :
    encodeOne "RDATE".toList (.period (.dt naiveNoon) (.dur 3600)) [] =
      .ok ⟨cDDDLists, "20200101T120000,PT1H".toList, []⟩ := by decide +kernel

/-- Lists (RDATE / EXDATE): a non-empty list of dates carries VALUE=DATE. -/
theorem value_param_date_list (n : Str) (hc : forProperty n = cDDDLists)
    (hl : Gen.addListNames.contains (lower n) = true) (ds : List PDate) (hne : ds ≠ []) :
    ∃ val, addValue n (.list ((ds.map PyAtom.date).map PyVal.atom)) [] = .ok (.one val) ∧
      val.kind = cDDDLists ∧ HasParam val kVALUE "DATE".toList := by
  refine ⟨_, add_list n hc hl (mapRes_mkDDD_atoms _), rfl, ?_⟩
  apply listParams_value
  · simpa [atomVals] using hne
  · intro v hv
    simp only [atomVals, List.mem_map] at hv
    obtain ⟨a, ⟨d, _, rfl⟩, rfl⟩ := hv
    rfl

/-- A non-empty list of periods carries VALUE=PERIOD. -/
theorem value_param_period_list (n : Str) (hc : forProperty n = cDDDLists)
    (hl : Gen.addListNames.contains (lower n) = true) (ps : List (PyAtom × PyAtom)) (hne : ps ≠ []) :
    ∃ val, addValue n (.list (ps.map (fun p => .period p.1 p.2))) [] = .ok (.one val) ∧
      val.kind = cDDDLists ∧ HasParam val kVALUE "PERIOD".toList := by
  refine ⟨_, add_list n hc hl (mapRes_mkDDD_periods _), rfl, ?_⟩
  apply listParams_value
  · simpa [periodVals] using hne
  · intro v hv
    simp only [periodVals, List.mem_map] at hv
    obtain ⟨p, _, rfl⟩ := hv
    rfl

/-- A list mixing DATE and DATE-TIME has no uniform VALUE: nothing is written (RFC 5545 has no
    such list; outside the property's domain, shown for the record). -/
theorem value_param_mixed_list :
    addValue "rdate".toList (.list [.atom (.date ⟨2020, 1, 1⟩), .atom (.dt naiveNoon)]) [] =
      .ok (.one ⟨cDDDLists, "20200101,20200101T120000".toList, []⟩) := by decide +kernel

/-! ## Clause 3b: every zoned value carries its own TZID -/

/-- A zoned datetime (zone id `z`, not UTC) under a vDDDTypes name that is not UTC-forced: local
    time without `Z`, and TZID=z as the only parameter. -/
theorem tzid_param (n : Str) (hc : forProperty n = cDDD) (hu : Gen.addUtcNames.contains (lower n) = false)
    (t : DT) (z : Str) (hz : t.tzid = some z) (hne : z ≠ UTC) :
    addValue n (.one (.atom (.dt t))) [] =
      .ok (.one ⟨cDDD, vDatetimeTo (t.wall.toP false), [(kTZID, .one z)]⟩) := by
  simp only [addValue, forceUtc, hu, Bool.false_eq_true, if_false, encodeOne_nil n (.atom (.dt t)) rfl, hc, construct1_cDDD, mkDDD, atomText,
    atomParams, tzParamDDD_zoned hz hne, isUtc_zoned hz hne, Except.map]

/-- A period whose start is zoned carries the zone of its start (vDDDTypes names; FREEBUSY's
    vPeriod the same for a non-empty id). -/
theorem tzid_param_period (n : Str) (hc : forProperty n = cDDD ∨ forProperty n = cPeriod)
    (t : DT) (b : PyAtom) (z : Str) (hz : t.tzid = some z) (hne : z ≠ UTC) (hne' : z ≠ [])
    (val : Val) (h : encodeOne n (.period (.dt t) b) [] = .ok val) :
    HasParam val kVALUE "PERIOD".toList ∧ HasParam val kTZID z := by
  rw [encodeOne_nil n (.period (.dt t) b) rfl] at h
  rcases hc with hc | hc
  · rw [hc, construct1_cDDD] at h
    injection h with h; subst h
    simp only [HasParam, periodParamsDDD, tzParamDDD_zoned hz hne]
    exact get_value_tzid _ _
  · rw [hc, construct1_cPeriod] at h
    simp only [mkPeriod] at h
    split at h
    · injection h with h; subst h
      simp only [HasParam, periodParamsV, tzParamTruthy_zoned hz hne hne']
      exact get_value_tzid _ _
    · cases h

/-- full statement for lists: the TZID of the line names the zone of every zoned element -/
def tzid_list_full : Prop :=
  ∀ (ts : List DT) (val : Val),
    addValue "rdate".toList (.list ((ts.map PyAtom.dt).map PyVal.atom)) [] = .ok (.one val) →
    ∀ t ∈ ts, ∀ z, t.tzid = some z → z ≠ UTC → HasParam val kTZID z

/-- Proved part: a non-empty list whose elements all lie in one zone `z` carries TZID=z. -/
theorem tzid_list_partial (n : Str) (hc : forProperty n = cDDDLists)
    (hl : Gen.addListNames.contains (lower n) = true) (ts : List DT) (hne : ts ≠ [])
    (z : Str) (hz : ∀ t ∈ ts, t.tzid = some z) (hu : z ≠ UTC) (he : z ≠ []) :
    ∃ val, addValue n (.list ((ts.map PyAtom.dt).map PyVal.atom)) [] = .ok (.one val) ∧ HasParam val kTZID z := by
  refine ⟨_, add_list n hc hl (mapRes_mkDDD_atoms _), ?_⟩
  apply listParams_tzid
  · simpa [atomVals] using hne
  · cases z with | nil => exact absurd rfl he | cons _ _ => rfl
  · intro v hv
    simp only [atomVals, List.mem_map] at hv
    obtain ⟨a, ⟨t, ht, rfl⟩, rfl⟩ := hv
    rw [atomParams, tzParamDDD_zoned (hz t ht) hu]
    exact get_cons_same _ _ _

private def berlin : DT := ⟨⟨⟨2020, 1, 1⟩, 12, 0, 0⟩, some "Europe/Berlin".toList, ⟨⟨2020, 1, 1⟩, 11, 0, 0⟩⟩
private def newYork : DT := ⟨⟨⟨2020, 1, 2⟩, 12, 0, 0⟩, some "America/New_York".toList, ⟨⟨2020, 1, 2⟩, 17, 0, 0⟩⟩

/-- `add('rdate', [berlin noon, new york noon])` is written
    `RDATE;TZID=America/New_York:20200101T120000,20200102T120000`: the Berlin value is re-read
    in New York time (finding mixed-zone-list) -/
theorem tzid_list_witness : ¬ tzid_list_full := by
  intro h
  have := h [berlin, newYork]
    ⟨cDDDLists, "20200101T120000,20200102T120000".toList, [(kTZID, .one "America/New_York".toList)]⟩
    (by decide +kernel) berlin List.mem_cons_self "Europe/Berlin".toList rfl (by decide +kernel)
  revert this; decide +kernel

/-! ## UTC forcing -/

/-- `add` of a datetime under DTSTAMP / CREATED / LAST-MODIFIED (any case): the value is
    converted to UTC first — the UTC wall clock with `Z`, no TZID. -/
theorem add_utc_forced (n : Str) (hc : forProperty n = cDDD) (hu : Gen.addUtcNames.contains (lower n) = true)
    (t : DT) :
    addValue n (.one (.atom (.dt t))) [] = .ok (.one ⟨cDDD, vDatetimeTo (t.utcWall.toP true), []⟩) := by
  simp only [addValue, forceUtc, hu, if_true, encodeOne, keptTyped, hc, construct1_cDDD, mkDDD, atomText, atomParams,
    DT.toUtc, DT.isUtc, tzParamDDD, mergeParams, List.foldl, Except.map]
  rfl

/-- the three names, in any case, are vDDDTypes names -/
theorem add_utc_names : ∀ n ∈ Gen.addUtcNames, forProperty n = cDDD ∧ forProperty (upper n) = cDDD := by
  decide +kernel

/-- A datetime inside a list is NOT converted (`isinstance(value, datetime)` is asked of the list). -/
theorem add_utc_not_in_list :
    addValue "dtstamp".toList (.list [.atom (.dt berlin)]) [] =
      .ok (.many [⟨cDDD, "20200101T120000".toList, [(kTZID, .one "Europe/Berlin".toList)]⟩]) := by decide +kernel

/-! ## `parameters=` -/

/-- `parameters={key: item}` sets the parameter (under the upper-cased key), whatever the
    constructor derived. -/
theorem merge_sets (ps : Params) (k : Str) (x : PVal) :
    Params.get? (mergeParams ps [(k, some x)]) (upper k) = some x := by
  simp only [mergeParams, List.foldl]; exact get_put_same _ _ _

/-- `parameters={key: None}` deletes it. -/
theorem merge_deletes (ps : Params) (k : Str) : Params.get? (mergeParams ps [(k, none)]) (upper k) = none := by
  simp only [mergeParams, List.foldl, Params.get?]
  rw [List.find?_eq_none.mpr]
  · rfl
  · intro kv hkv
    have := (List.mem_filter.mp hkv).2
    simpa using this

/-! ## Repeated `add`: order and list-ness -/

/-- The values of one name keep their insertion order: after any sequence of adds (scalars and
    lists in any order, list after scalar and scalar after list included) the stored values are
    the old ones followed by the added ones, flattened in order; other names are untouched. -/
theorem add_accumulates (props : List Entry) (k : Str) (ss : List Stored) :
    valuesOf (addAll props k ss) k = valuesOf props k ++ ss.flatMap Stored.vals ∧
    ∀ k', k' ≠ k → valuesOf (addAll props k ss) k' = valuesOf props k' :=
  ⟨valuesOf_addAll ss props k, fun k' hk => valuesOf_addAll_other ss props k k' hk⟩

/-- Exactly when the entry is a Python list: the name was present before, or two or more adds
    were made, or some add passed a list. -/
theorem add_islist (props : List Entry) (k : Str) (ss : List Stored) (hne : ss ≠ []) :
    isListOf (addAll props k ss) k = (hasKey props k || decide (2 ≤ ss.length) || ss.any Stored.isMany) :=
  isListOf_addAll ss props k hne

/-- full statement: on a fresh name the entry is a list iff two or more values were added -/
def islist_full : Prop :=
  ∀ (props : List Entry) (k : Str) (ss : List Stored), hasKey props k = false → ss ≠ [] →
    isListOf (addAll props k ss) k = decide (2 ≤ (ss.flatMap Stored.vals).length)

/-- Proved part: when every add passes a single value. -/
theorem islist_partial (props : List Entry) (k : Str) (ss : List Stored) (hf : hasKey props k = false) (hne : ss ≠ [])
    (hs : ∀ s ∈ ss, s.isMany = false) :
    isListOf (addAll props k ss) k = decide (2 ≤ (ss.flatMap Stored.vals).length) := by
  rw [isListOf_addAll ss props k hne, hf, List.any_eq_false.mpr fun s h => by simp [hs s h], length_flatMap_vals hs]
  simp

/-- `add('comment', ['x'])` on a fresh name stores `[vText('x')]`: a list with one value; after
    serialising and parsing it is a single value (finding one-element-list-vs-scalar, D25). -/
theorem islist_witness : ¬ islist_full := by
  intro h
  have := h [] "COMMENT".toList [.many [⟨cText, "x".toList, []⟩]] (by decide +kernel) (by decide +kernel)
  revert this; decide +kernel

/-! ## Nesting -/

/-- `add_component`: the built tree has the component's name and exactly the built
    subcomponents (as many, each built from its own calls), in the order they were handed over. -/
theorem build_nesting (name : Str) (ops : List Op) (subs : List Spec) (c : Comp) (outs : List Outcome)
    (h : build (.mk name ops subs) = some (c, outs)) :
    c.name = name ∧ c.subs.length = subs.length ∧ ∃ o, buildList subs = some (c.subs, o) := by
  unfold build at h
  split at h
  · rename_i props out cs outs' h1 h2
    cases h
    exact ⟨rfl, buildList_length subs cs outs' h2, outs', h2⟩
  · cases h

/-! ## The built tree survives serialise and parse (composition with C01) -/

/-- A tree built by `add(name, value, parameters)` calls with one not-yet-typed value each (any
    number of calls per name, any nesting through `add_component`) lies in C01's domain `WF`:
    names upper-cased and pairwise distinct, every entry non-empty and a list exactly when it
    holds two or more values, every value an instance of `for_property(name)`.  The remaining
    clause of `WF` — each value text is a fixpoint of its decoder (`DecFix`, the C03 inverse laws
    type by type) — is the hypothesis. Unbounded in depth, width and number of calls; calls that
    raise are covered (they leave the mapping unchanged). -/
theorem api_wf (dec : Dec) (s : Spec) (t : Comp) (o : List Outcome)
    (hs : ScalarSpec s) (hb : build s = some (t, o)) (hd : DecFix dec t) : WF dec t :=
  build_wf dec s t o hs hb hd

/-- Hence (C01 `parse_toIcal`: folding C06, lines C05 / C08, tree layer): `to_ical()` of such a
    tree succeeds and `from_ical` of the text returns the same nesting, the same names with the
    values of each name in insertion order, the same parameters and value texts — the tree itself
    in serialisation order — and records no error.  (`ItemOK`: the line-level domain of C05/C08;
    `TzOK`: the VTIMEZONEs of the tree can be turned into time zones, C12.) -/
theorem api_roundtrip (tzok : Comp → Bool) (dec : Dec) (s : Spec) (t : Comp) (o : List Outcome)
    (hs : ScalarSpec s) (hb : build s = some (t, o)) (hd : DecFix dec t)
    (htz : TzOK tzok true t) (hi : ∀ it ∈ items true t, ICal.C01.ItemOK it) :
    ∃ text, toIcal true t = .ok text ∧ parseText tzok dec false text = some ([sortedTree true t], []) :=
  ICal.C01.parse_toIcal tzok dec t (build_wf dec s t o hs hb hd) htz hi

/-! ## Non-vacuity -/

/-- the hypotheses of the theorems above hold for the RFC names they are about -/
example : forProperty "DTSTART".toList = cDDD ∧ Gen.addUtcNames.contains (lower "DTSTART".toList) = false := by decide +kernel
example : forProperty "rdate".toList = cDDDLists ∧ Gen.addListNames.contains (lower "rdate".toList) = true := by decide +kernel
example : forProperty "ExDate".toList = cDDDLists ∧ Gen.addListNames.contains (lower "ExDate".toList) = true := by decide +kernel
example : forProperty "FREEBUSY".toList = cPeriod := by decide +kernel
example : forProperty "Last-Modified".toList = cDDD ∧ Gen.addUtcNames.contains (lower "Last-Modified".toList) = true := by decide +kernel
example : rfc5545Props.length = 46 := by decide +kernel
/-- a DATE under DTSTART -/
example : encodeOne "DTSTART".toList (.atom (.date ⟨2020, 2, 29⟩)) [] =
    .ok ⟨cDDD, "20200229".toList, [(kVALUE, .one "DATE".toList)]⟩ := by decide +kernel
/-- a zoned datetime under DTSTART; the same under DTSTAMP -/
example : addValue "dtstart".toList (.one (.atom (.dt berlin))) [] =
    .ok (.one ⟨cDDD, "20200101T120000".toList, [(kTZID, .one "Europe/Berlin".toList)]⟩) := by decide +kernel
example : addValue "dtstamp".toList (.one (.atom (.dt berlin))) [] =
    .ok (.one ⟨cDDD, "20200101T110000Z".toList, []⟩) := by decide +kernel
/-- RDATE: two dates; one period with a zoned start -/
example : addValue "rdate".toList (.list [.atom (.date ⟨2020, 1, 1⟩), .atom (.date ⟨2020, 1, 2⟩)]) [] =
    .ok (.one ⟨cDDDLists, "20200101,20200102".toList, [(kVALUE, .one "DATE".toList)]⟩) := by decide +kernel
example : addValue "rdate".toList (.list [.period (.dt berlin) (.dur 3600)]) [] =
    .ok (.one ⟨cDDDLists, "20200101T120000/PT1H".toList,
      [(kVALUE, .one "PERIOD".toList), (kTZID, .one "Europe/Berlin".toList)]⟩) := by decide +kernel
/-- parameters: set, list value, None deletes the derived VALUE -/
example : encodeOne "dtstart".toList (.atom (.date ⟨2020, 2, 29⟩))
      [("x-p".toList, some (.one "v".toList)), ("value".toList, none)] =
    .ok ⟨cDDD, "20200229".toList, [("X-P".toList, .one "v".toList)]⟩ := by decide +kernel
/-- scalar then list then scalar: one entry, four values in order, a list -/
example : addAll [] "COMMENT".toList
      [.one ⟨cText, "a".toList, []⟩, .many [⟨cText, "b".toList, []⟩, ⟨cText, "c".toList, []⟩], .one ⟨cText, "d".toList, []⟩] =
    [⟨"COMMENT".toList, true, [⟨cText, "a".toList, []⟩, ⟨cText, "b".toList, []⟩, ⟨cText, "c".toList, []⟩, ⟨cText, "d".toList, []⟩]⟩] := by
  decide +kernel
/-- a tree: calendar, event with a descriptor call that removes DURATION, nested alarm (shown as
    the items the serialiser visits) -/
example : (build (.mk "VCALENDAR".toList [.add "version".toList (.one (.text "2.0".toList)) []]
      [.mk "VEVENT".toList
        [.add "duration".toList (.one (.atom (.dur 3600))) [],
         .setSingle "DTEND".toList (some (.atom (.date ⟨2020, 1, 2⟩)))]
        [.mk "VALARM".toList [.setRepeat (.int 2)] []]])).map (fun r => (items false r.1, r.2)) =
    some ([⟨"BEGIN".toList, "VCALENDAR".toList, []⟩, ⟨"VERSION".toList, "2.0".toList, []⟩,
        ⟨"BEGIN".toList, "VEVENT".toList, []⟩, ⟨"DTEND".toList, "20200102".toList, [(kVALUE, .one "DATE".toList)]⟩,
        ⟨"BEGIN".toList, "VALARM".toList, []⟩, ⟨"REPEAT".toList, "2".toList, []⟩, ⟨"END".toList, "VALARM".toList, []⟩,
        ⟨"END".toList, "VEVENT".toList, []⟩, ⟨"END".toList, "VCALENDAR".toList, []⟩],
      [.ok, .ok, .ok, .ok]) := by
  decide +kernel

/-- `api_roundtrip` applies: a calendar with an event holding two COMMENTs (added one by one), a
    DATE start and a nested alarm; the identity decoder -/
private def sampleSpec : Spec :=
  .mk "VCALENDAR".toList [.add "version".toList (.one (.text "2.0".toList)) []]
    [.mk "VEVENT".toList
      [.add "comment".toList (.one (.text "a, b".toList)) [("language".toList, some (.one "en".toList))],
       .add "dtstart".toList (.one (.atom (.date ⟨2020, 2, 29⟩))) [],
       .add "Comment".toList (.one (.text "c".toList)) [],
       .add "dtend".toList (.one (.text "not a date".toList)) []]
      [.mk "VALARM".toList [.add "trigger".toList (.one (.atom (.dur (-900)))) []] []]]
private def decId : Dec := fun _ t _ => some t
example : ScalarSpec sampleSpec := by
  simp only [sampleSpec, ScalarSpec, ScalarSpecs, and_true]
  decide +kernel
private def sampleTree : Comp :=
  .mk "VCALENDAR".toList [⟨"VERSION".toList, false, [⟨cText, "2.0".toList, []⟩]⟩]
    [.mk "VEVENT".toList
      [⟨"COMMENT".toList, true, [⟨cText, "a\\, b".toList, [("LANGUAGE".toList, .one "en".toList)]⟩, ⟨cText, "c".toList, []⟩]⟩,
       ⟨"DTSTART".toList, false, [⟨cDDD, "20200229".toList, [(kVALUE, .one "DATE".toList)]⟩]⟩]
      [.mk "VALARM".toList [⟨"TRIGGER".toList, false, [⟨cDDD, "-PT15M".toList, []⟩]⟩] []]]
/-- the fifth call (`add('dtend', 'not a date')`) raises ValueError and leaves the event unchanged -/
example : build sampleSpec = some (sampleTree, [.ok, .ok, .ok, .ok, .valueError, .ok]) := by
  -- with the literals as explicit lists first: `"..".toList` is decoded again wherever it is met
  unfold sampleSpec sampleTree
  repeat rw [String.toList_ofList]
  rfl
example : DecFix decId sampleTree := by
  simp only [sampleTree, DecFix, DecFixs, decId, and_true]
  decide +kernel
example : TzOK (fun _ => true) true sampleTree := TzOK_true true _
example : ∀ it ∈ items true sampleTree, ICal.C01.ItemOK it := by decide +kernel
/-- what comes back: DTSTART before COMMENT (VEVENT's canonical order), the two COMMENTs in insertion order -/
example : (items true sampleTree).map (fun it => (it.name, it.text)) =
    [("BEGIN".toList, "VCALENDAR".toList), ("VERSION".toList, "2.0".toList), ("BEGIN".toList, "VEVENT".toList),
     ("DTSTART".toList, "20200229".toList), ("COMMENT".toList, "a\\, b".toList), ("COMMENT".toList, "c".toList),
     ("BEGIN".toList, "VALARM".toList), ("TRIGGER".toList, "-PT15M".toList), ("END".toList, "VALARM".toList),
     ("END".toList, "VEVENT".toList), ("END".toList, "VCALENDAR".toList)] := by decide +kernel

/-! ### `Component.add` as regenerated

`Bodies.componentAddP` is the translated `Component.add(name, value, parameters)` with the pieces of ICal/Model/AddPieces.lean
(`Bodies.liftEnc` carries the model's results, its marker `unmodelled` as `Exc.fuel`). -/

/-- the translated `add` is the model's `addProp`: UTC forcing, element-wise or whole encoding, accumulation -/
theorem body_component_add (props : List Entry) (name : Str) (a : PyArg) (upd : List (Str × Option PVal)) :
    Bodies.componentAddP props name a upd = Bodies.liftEnc (addProp props name a upd) := Bodies.add_eq props name a upd

/-- its "set value" stage alone is the model's `accumulate` -/
theorem body_component_add_accumulate (props : List Entry) (name : Str) (st : Stored) :
    Bodies.setStage props name (Bodies.storedU st) = .ok (accumulate props (upper name) st) := Bodies.setStage_eq props name st

/-- the regenerated `Component._encode(name, value, parameters, 1)` is the model's `encodeOne`: a value of a value class is
    kept, the class of the name makes the object otherwise, then every item of `parameters` is applied - None deletes the
    key, anything else sets it -/
theorem body_component_encode (name : Str) (v : PyVal) (upd : List (Str × Option PVal)) :
    (Bodies.encodeOneP name v upd).map Bodies.EncObj.val = Bodies.liftEnc (encodeOne name v upd) := Bodies.encode_eq name v upd

/-- the regenerated `vDDDLists.__init__` on an iterable: every element through `vDDDTypes(..)`, then the model's `listParams`
    (VALUE when the SET of the elements' VALUEs has one member that is not None; the TZID of the last element that has one,
    when it is true) -/
theorem body_vDDDLists_init_many (xs : List PyVal) :
    Bodies.dddListsInitP (.many xs) = Bodies.liftEnc ((Enc.mapRes mkDDD xs).map (fun vs => (listParams vs, vs))) :=
  Bodies.ddd_lists_init_many xs

/-- an argument without `__iter__` is wrapped in a list first -/
theorem body_vDDDLists_init_one (v : PyVal) :
    Bodies.dddListsInitP (.one v) = Bodies.liftEnc ((Enc.mapRes mkDDD [v]).map (fun vs => (listParams vs, vs))) :=
  Bodies.ddd_lists_init_one v

/-- the regenerated `vDDDTypes.__init__` derives the model's `atomParams` for one object (VALUE=DATE / TIME, the TZID of a
    datetime unless it is UTC) -/
theorem body_vDDDTypes_init_atom (tz : PyRT.PyDDD → Option Str) (a : PyAtom) (h : Bodies.TzOfAtom tz a) :
    Bodies.dddInitParamsP tz (Bodies.atomObjE a) = atomParams a := Bodies.ddd_init_atom tz a h

/-- and `periodParamsDDD` for a pair: VALUE=PERIOD and the zone of a datetime START -/
theorem body_vDDDTypes_init_period (tz : PyRT.PyDDD → Option Str) (a b : PyAtom) (h : Bodies.TzOfAtom tz a) :
    Bodies.dddInitParamsP tz (.period (Bodies.atomObjE a) (Bodies.atomObjE b)) = periodParamsDDD a :=
  Bodies.ddd_init_period tz a b h

/-- the regenerated `vPeriod.__init__((a, b))` accepts the pair exactly when the model's `periodText` does (a start STRICTLY
    after the end, mixed kinds and a TypeError / OverflowError inside all end as ValueError) and derives `periodParamsV` -/
theorem body_vPeriod_init (a b : PyAtom) :
    Bodies.periodInitParamsP a b =
      (match Enc.periodText a b with
       | some _ => .ok (periodParamsV a)
       | none => .error .valueError) := Bodies.period_init_eq a b

end ICal.C02
