/-
  C18 — Used-timezone discovery is complete; the missing set is "used minus present" and total;
  add_missing_timezones closes the known part of it and is idempotent.

  Property theorems only; helper lemmas are in ICal/Lemmas/TzUse.lean.
  `usedTzids`, `missingTzids`, `tzNames`, `addMissing` are the models of Calendar.get_used_tzids,
  get_missing_tzids, `[tz.tz_name for tz in timezones if 'TZID' in tz]` and add_missing_timezones
  (Model/TzUse.lean).  Sets are duplicate-free lists (`used_nodup`), compared by membership.

  `knows : Str → Bool` is the provider: `knows k` iff `Timezone.from_tzid(k)` returns a component
  (it raises ValueError otherwise and the id is skipped); the component it returns is a VTIMEZONE
  whose TZID is `k` — its inner content is property C13.
-/
import ICal.Lemmas.TzUse
import ICal.Lemmas.BodiesTzUse
namespace ICal.C18

/-- The used set is exactly the set of TZID parameters found on any value (every element of a
    list-valued property, every element of a multi-valued TZID parameter) of any property of
    any nested component. -/
theorem used_complete (t : Comp) (k : Str) :
    k ∈ usedTzids t ↔
      ∃ c ∈ preorder t, ∃ e ∈ c.props, ∃ v ∈ e.vals,
        v.params.get? TZID = some (.one k) ∨ ∃ l, v.params.get? TZID = some (.many l) ∧ k ∈ l := by
  rw [usedTzids, mem_toSet, mem_rawTzids]
  simp only [mem_valTzids]

/-- it is a set: no id is reported twice -/
theorem used_nodup (t : Comp) : (usedTzids t).Nodup := toSet_nodup _

/-- The names the calendar defines: the TZID of every VTIMEZONE (at any depth) that has one. -/
theorem tznames_spec (t : Comp) (k : Str) :
    k ∈ tzNames t ↔ ∃ c ∈ preorder t, c.name = VTIMEZONE ∧ tzName? c = some k := by
  simp only [tzNames, timezones, walk_kind VTIMEZONE upper_VTIMEZONE, List.mem_filterMap, List.mem_filter,
    beq_iff_eq, and_assoc]

/-- The missing set is the used ids that no VTIMEZONE of the calendar carries.  `missingTzids`
    is a total function: whatever VTIMEZONEs the calendar contains (unused, repeated, without
    TZID), there is no failure case. -/
theorem missing_spec (t : Comp) (k : Str) :
    k ∈ missingTzids t ↔ k ∈ usedTzids t ∧ k ∉ tzNames t :=
  mem_missingTzids t k

theorem missing_nodup (t : Comp) : (missingTzids t).Nodup := missingTzids_nodup t

/-- add_missing_timezones does not change the used set -/
theorem add_missing_used (knows : Str → Bool) (t : Comp) :
    usedTzids (addMissing knows t) = usedTzids t :=
  usedTzids_addMissing knows t

/-- After the call: the VTIMEZONE names are the old ones followed by the missing ids the provider
    knows; so an id that already had VTIMEZONEs keeps exactly those, a missing id the provider
    knows has exactly one, and every other id has none. -/
theorem add_missing_closes (knows : Str → Bool) (t : Comp) (k : Str) :
    (tzNames (addMissing knows t)).count k =
      (tzNames t).count k + (if k ∈ missingTzids t ∧ knows k = true then 1 else 0) := by
  rw [tzNames_addMissing, List.count_append]
  congr 1
  have hn : (addedIds knows t).Nodup := (missingTzids_nodup t).sublist List.filter_sublist
  rw [hn.count]
  simp [addedIds, List.mem_filter]

/-- in the property's words: every used id the provider knows and that had no VTIMEZONE has
    exactly one afterwards -/
theorem add_missing_exactly_one (knows : Str → Bool) (t : Comp) (k : Str)
    (hu : k ∈ usedTzids t) (hk : knows k = true) (hm : k ∉ tzNames t) :
    (tzNames (addMissing knows t)).count k = 1 := by
  rw [add_missing_closes]
  have : k ∈ missingTzids t := (mem_missingTzids t k).2 ⟨hu, hm⟩
  simp [this, hk, List.count_eq_zero_of_not_mem hm]

/-- ids that already had one or more VTIMEZONEs are untouched -/
theorem add_missing_keeps_present (knows : Str → Bool) (t : Comp) (k : Str) (hp : k ∈ tzNames t) :
    (tzNames (addMissing knows t)).count k = (tzNames t).count k := by
  rw [add_missing_closes]
  have : k ∉ missingTzids t := fun h => ((mem_missingTzids t k).1 h).2 hp
  simp [this]

/-- what is still missing afterwards is exactly the missing ids the provider does not know -/
theorem add_missing_rest (knows : Str → Bool) (t : Comp) :
    missingTzids (addMissing knows t) = (missingTzids t).filter (fun k => !knows k) :=
  missingTzids_addMissing knows t

/-- so every used id the provider knows is defined afterwards -/
theorem add_missing_known_defined (knows : Str → Bool) (t : Comp) (k : Str)
    (hu : k ∈ usedTzids t) (hk : knows k = true) : k ∈ tzNames (addMissing knows t) := by
  apply Classical.byContradiction
  intro hn
  have : k ∈ missingTzids (addMissing knows t) :=
    (mem_missingTzids _ k).2 ⟨by rw [usedTzids_addMissing]; exact hu, hn⟩
  rw [add_missing_rest] at this
  simp [hk] at this

/-- repeating the call adds nothing -/
theorem add_missing_idem (knows : Str → Bool) (t : Comp) :
    addMissing knows (addMissing knows t) = addMissing knows t := by
  have h : addedIds knows (addMissing knows t) = [] := by
    simp only [addedIds, add_missing_rest, List.filter_filter]
    apply List.filter_eq_nil_iff.2
    intro k _
    cases knows k <;> simp
  rw [addMissing_eq knows (addMissing knows t), h]
  cases t
  simp [addMissing, Comp.name, Comp.props, Comp.subs]

/-- "Repeating the call adds nothing", for ANY number of repeated calls: `n + 1` calls leave the
    calendar that one call leaves. -/
theorem add_missing_repeat (knows : Str → Bool) (t : Comp) (n : Nat) :
    Nat.repeat (addMissing knows) (n + 1) t = addMissing knows t := by
  induction n with
  | zero => rfl
  | succ n ih =>
    show addMissing knows (Nat.repeat (addMissing knows) (n + 1) t) = addMissing knows t
    rw [ih, add_missing_idem]

/-- "Ids it does not know are still reported missing", after any number of calls (also none):
    the missing set after `n + 1` calls is the set of missing ids the provider does not know, and
    such an id is in it after every number of calls. -/
theorem unknown_stay_missing (knows : Str → Bool) (t : Comp) (n : Nat) :
    missingTzids (Nat.repeat (addMissing knows) (n + 1) t) = (missingTzids t).filter (fun k => !knows k) ∧
    ∀ k, k ∈ missingTzids t → knows k = false → ∀ m, k ∈ missingTzids (Nat.repeat (addMissing knows) m t) := by
  refine ⟨by rw [add_missing_repeat, add_missing_rest], ?_⟩
  intro k hk hkn m
  cases m with
  | zero => exact hk
  | succ m =>
    rw [add_missing_repeat, add_missing_rest, List.mem_filter]
    exact ⟨hk, by simp [hkn]⟩

/-- After any positive number of calls every used id the provider knows has a VTIMEZONE, and it
    has EXACTLY one if it had none before. -/
theorem add_missing_repeat_closes (knows : Str → Bool) (t : Comp) (n : Nat) (k : Str)
    (hu : k ∈ usedTzids t) (hk : knows k = true) :
    k ∈ tzNames (Nat.repeat (addMissing knows) (n + 1) t) ∧
    (k ∉ tzNames t → (tzNames (Nat.repeat (addMissing knows) (n + 1) t)).count k = 1) := by
  rw [add_missing_repeat]
  exact ⟨add_missing_known_defined knows t k hu hk, add_missing_exactly_one knows t k hu hk⟩

/-! ### the regenerated bodies (tools/py2lean.py, Gen/BodiesTzUse.lean) are the models

  `Bodies.usedTzidsP`, `missingTzidsP`, `addMissingP` are the regenerated `Calendar.get_used_tzids`,
  `get_missing_tzids`, `add_missing_timezones` with the external pieces of Model/TzUsePieces.lean given by name (the
  same definitions the driver runs against icalendar).  A Python set is returned as a duplicate-free list in insertion
  order; Python leaves the iteration order of a set unspecified, so the statements compare SORTED lists (the model is
  sorted by construction).  `t.WF`: property keys are distinct (they are keys of a dict).  `tzDomainP t`: the model's
  domain - no VTIMEZONE has a list-valued TZID. -/

/-- regenerated `Calendar.timezones` (= `self.walk("VTIMEZONE")` with the default `select`) -/
theorem body_timezones (t : Comp) : Gen.BodiesTzUse.Calendar_timezones t = timezones t :=
  Bodies.timezones_eq t

/-- regenerated `Calendar.get_used_tzids`: never raises; what it returns is a set (no duplicates) whose sorted
    listing is the model's `usedTzids` -/
theorem body_get_used_tzids (t : Comp) (hw : t.WF) :
    ∃ l, Bodies.usedTzidsP t = .ok l ∧ l.Nodup ∧ sortStr l = usedTzids t :=
  ⟨_, Bodies.usedTzidsP_eq t, Bodies.usedList_nodup t, Bodies.sort_usedList t hw⟩

/-- regenerated `Calendar.get_missing_tzids`: never raises (KeyError of `tz_name` is guarded by `'TZID' in timezone`,
    `discard` has no failure case); sorted it is the model's `missingTzids` -/
theorem body_get_missing_tzids (t : Comp) (hw : t.WF) (hd : Bodies.tzDomainP t = true) :
    ∃ l, Bodies.missingTzidsP t = .ok l ∧ l.Nodup ∧ sortStr l = missingTzids t :=
  ⟨_, Bodies.missingTzidsP_eq t, Bodies.missingList_nodup t, Bodies.sort_missingList t hw hd⟩

/-- regenerated `Calendar.add_missing_timezones`: for every provider `knows` the call does not raise (the ValueError
    of `Timezone.from_tzid` is caught and the id skipped) and leaves the model's `addMissing knows t`: the ids are
    visited in sorted order, each known one appended once -/
theorem body_add_missing_timezones (knows : Str → Bool) (t : Comp) (hw : t.WF) (hd : Bodies.tzDomainP t = true) :
    Bodies.addMissingP knows t = .ok (addMissing knows t) :=
  Bodies.addMissingP_eq knows t hw hd

/-! ### non-vacuity -/

section examples

private def zoned (s z : String) : Val :=
  { kind := "vDDDTypes".toList, text := s.toList, params := [("TZID".toList, .one z.toList)] }
private def tzc (z : String) : Comp :=
  .mk VTIMEZONE [{ name := TZID, isList := false, vals := [{ kind := vTextKind, text := z.toList, params := [] }] }] []
private def ev : Comp :=
  .mk VEVENT [{ name := "DTSTART".toList, isList := false, vals := [zoned "20200101T120000" "Europe/Berlin"] },
              { name := "RDATE".toList, isList := true,
                vals := [{ kind := "vDDDLists".toList, text := "20200102T120000".toList,
                           params := [("TZID".toList, .one "Asia/Tokyo".toList)] },
                         { kind := "vDDDLists".toList, text := "20200103T120000".toList,
                           params := [("TZID".toList, .many ["X/Unknown".toList, "Europe/Berlin".toList])] }] }]
    [.mk "VALARM".toList [{ name := "TRIGGER".toList, isList := false, vals := [zoned "20200101T110000" "America/New_York"] }] []]
/-- a calendar with an unused, a repeated and a TZID-less VTIMEZONE -/
private def cal : Comp :=
  .mk "VCALENDAR".toList [] [tzc "Asia/Tokyo", tzc "Asia/Tokyo", tzc "Unused/Zone", .mk VTIMEZONE [] [], ev]
private def knows (k : Str) : Bool := k != "X/Unknown".toList

/-- the two scans of the sample, evaluated once; what follows is derived from them by the theorems above -/
private theorem cal_sets :
    usedTzids cal = ["America/New_York", "Asia/Tokyo", "Europe/Berlin", "X/Unknown"].map String.toList ∧
    tzNames cal = ["Asia/Tokyo", "Asia/Tokyo", "Unused/Zone"].map String.toList := by decide +kernel
example : usedTzids cal = ["America/New_York", "Asia/Tokyo", "Europe/Berlin", "X/Unknown"].map String.toList :=
  cal_sets.1
private theorem cal_missing :
    missingTzids cal = ["America/New_York", "Europe/Berlin", "X/Unknown"].map String.toList := by
  rw [missingTzids, cal_sets.1, cal_sets.2]
  -- the kernel decodes a string literal under `toList` slowly: put the character lists there first
  simp only [List.map]
  repeat rw [String.toList_ofList]
  decide +kernel
example : missingTzids cal = ["America/New_York", "Europe/Berlin", "X/Unknown"].map String.toList := cal_missing
example : tzNames (addMissing knows cal) =
    ["Asia/Tokyo", "Asia/Tokyo", "Unused/Zone", "America/New_York", "Europe/Berlin"].map String.toList := by
  rw [tzNames_addMissing, addedIds, cal_missing, cal_sets.2]
  unfold knows
  simp only [List.map]
  repeat rw [String.toList_ofList]
  decide +kernel
private theorem cal_rest : missingTzids (addMissing knows cal) = ["X/Unknown".toList] := by
  rw [add_missing_rest, cal_missing]
  unfold knows
  simp only [List.map]
  repeat rw [String.toList_ofList]
  decide +kernel
example : missingTzids (addMissing knows cal) = ["X/Unknown".toList] := cal_rest
example : missingTzids (Nat.repeat (addMissing knows) 3 cal) = ["X/Unknown".toList] := by
  rw [add_missing_repeat knows cal 2]; exact cal_rest
private theorem cal_domain : Bodies.tzDomainP cal = true := by decide +kernel
example : Bodies.tzDomainP cal = true := cal_domain
private theorem cal_wf : cal.WF :=
  have one : ∀ e : Entry, keysDistinct [e] := fun _ => List.pairwise_singleton _ _
  ⟨.nil, ⟨one _, trivial⟩, ⟨one _, trivial⟩, ⟨one _, trivial⟩, ⟨.nil, trivial⟩,
    ⟨by unfold keysDistinct; decide +kernel, ⟨one _, trivial⟩, trivial⟩, trivial⟩
example : (Bodies.usedTzidsP cal).toOption.map sortStr = some (usedTzids cal) := by
  obtain ⟨l, h, _, hs⟩ := body_get_used_tzids cal cal_wf
  rw [h, ← hs]; rfl
example : (Bodies.addMissingP knows cal).toOption.map tzNames = some (tzNames (addMissing knows cal)) := by
  rw [body_add_missing_timezones knows cal cal_wf cal_domain]; rfl

end examples

end ICal.C18
