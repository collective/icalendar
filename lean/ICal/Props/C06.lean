/-
  C06 — Folding: physical lines of at most 75 octets, no split characters, exact unfolding.
  `foldline` is the model of parser.foldline with the *generated* limit, separator and slice
  width (ICal.Gen, regenerated from /repo on every run); `unfold` models `uFOLD.sub('', ·)`.
  Octets are UTF-8 octets (`Char.utf8Size`); a segment is a list of whole characters, so a
  multi-octet character is never split and every physical line is valid UTF-8 by construction
  (`utf8_append` makes the byte-level statement).
-/
import ICal.Lemmas.Fold
import ICal.Lemmas.FoldLines
import ICal.Lemmas.FoldBytes
import ICal.Lemmas.BodiesFold
import ICal.Lemmas.FoldMore
import ICal.Model.Ser
namespace ICal.C06

/-- Master statement, generic in the limit (`5 ≤ limit`: a 4-octet character must fit): the
    folded line is its segments joined by CR LF SP, the segments concatenate to the original
    line (no character lost, split or added), and every segment has at most `limit - 1` octets. -/
theorem fold_segments_generic (limit : Nat) (hl : 5 ≤ limit) (l : Str) :
    ∃ segs, foldlineWith limit sep3 l = joinSegs sep3 segs ∧ segs.flatten = l ∧
      ∀ s ∈ segs, octets s ≤ limit - 1 := by
  obtain ⟨segs, h1, h2, h3, _⟩ := foldlineWith_segs limit hl sep3 l
  exact ⟨segs, h1, h2, h3⟩

/-- The same for the constants of the source: at most 74 octets per segment, hence first
    physical line ≤ 74 and every continuation line (one added space + segment) ≤ 75 octets. -/
theorem fold_segments (l : Str) :
    ∃ segs, foldline l = joinSegs [CR, LF, SP] segs ∧ segs.flatten = l ∧ ∀ s ∈ segs, octets s ≤ 74 := by
  have h := fold_segments_generic Gen.foldLimit (by decide) l
  simpa [foldline, foldSep_eq, sep3, Gen.foldLimit] using h

/-- Width of the physical lines: a continuation line is SP followed by a segment. -/
theorem fold_width (l : Str) :
    ∃ segs, foldline l = joinSegs [CR, LF, SP] segs ∧ ∀ s ∈ segs, octets (SP :: s) ≤ 75 := by
  obtain ⟨segs, h1, _, h3⟩ := fold_segments l
  refine ⟨segs, h1, ?_⟩
  intro s hs
  have := h3 s hs
  rw [octets_cons, w_SP]
  omega

/-- Exact unfolding: removing each CRLF + whitespace restores the original line. -/
theorem unfold_fold (l : Str) (h : LF ∉ l) : unfold (foldline l) = l := by
  obtain ⟨segs, h1, h2, _⟩ := fold_segments l
  rw [h1, ← sep3, unfold_join _ (not_mem_of_flatten h2 h), h2]

/-- Unfolding is exact for *any* placement of folds between characters (used by C09). -/
theorem unfold_any_folding (segs : List Str) (h : ∀ s ∈ segs, LF ∉ s) :
    unfold (joinSegs [CR, LF, SP] segs) = segs.flatten := by
  rw [← sep3]; exact unfold_join segs h

/-- Byte level: encoding distributes over concatenation, so cutting between characters never
    cuts inside a character's octets and each physical line is the UTF-8 of its own characters. -/
theorem utf8_append (a b : Str) : utf8 (a ++ b) = utf8 a ++ utf8 b :=
  ICal.utf8_append a b

/-- The number of octets of the encoding is the octet count used by the folder. -/
theorem utf8_length (l : Str) : (utf8 l).length = octets l :=
  ICal.utf8_length l

/-! Non-vacuity: the only hypothesis used above (`LF ∉ l`) is what `Contentline.__new__`
    asserts of every content line; e.g. a line made of multi-octet characters satisfies it. -/
example : LF ∉ List.replicate 40 'é' := by decide +kernel
example : (5 : Nat) ≤ Gen.foldLimit := by decide +kernel

/-- Component level, with empty lines allowed: `Contentlines.to_ical` skips empty lines, folds
    the others, joins them with CR LF and appends CR LF; `Contentlines.from_ical` unfolds the
    whole text, splits it on line breaks and drops empty lines.  Every non-empty line that has no
    raw line feed and does not start with SP or HT is recovered exactly, in order. -/
theorem lines_roundtrip_filter (ls : List Str)
    (h : ∀ l ∈ ls, LF ∉ l ∧ l.head? ≠ some SP ∧ l.head? ≠ some HT ∧ l.head? ≠ some BOM) :
    linesFromIcal (linesToIcal ls) = ls.filter (· ≠ []) := by
  have hf : ls.filter (· ≠ []) = ls.filter (fun l => !l.isEmpty) := by
    apply List.filter_congr; intro l _; cases l <;> simp
  rw [linesFromIcal, stripBOM_linesToIcal ls (fun l hl => ⟨(h l hl).2.2.2, (h l hl).1⟩), hf, ← linesToIcal_filter]
  apply linesFromText_linesToIcal
  intro l hl
  rw [List.mem_filter] at hl
  obtain ⟨h1, h2, h3, _⟩ := h l hl.1
  exact ⟨fun e => by simp [e] at hl, h1, h2, h3⟩

/-- Component level of C06: every content line of a serialised component is recovered exactly
    by unfolding and splitting.  The hypotheses are what holds of real content lines: they are
    non-empty, contain no raw line feed (`Contentline.__new__` asserts it) and start with a
    property name, hence not with a space, a tab or a byte-order mark (a leading U+FEFF of the
    text is dropped by the reader). -/
theorem lines_roundtrip (ls : List Str)
    (h : ∀ l ∈ ls, l ≠ [] ∧ LF ∉ l ∧ l.head? ≠ some SP ∧ l.head? ≠ some HT ∧ l.head? ≠ some BOM) :
    linesFromIcal (linesToIcal ls) = ls := by
  rw [lines_roundtrip_filter ls (fun l hl => (h l hl).2), List.filter_eq_self]
  intro l hl
  simpa using (h l hl).1

/-! Non-vacuity of the line hypotheses, including a line that ends with CR and one that starts
    with CR (both are handled: `CR CR LF` breaks after the second CR only). -/
example : ∀ l ∈ [['A', ':', 'b', CR], [CR, 'x'], List.replicate 80 'é'],
    l ≠ [] ∧ LF ∉ l ∧ l.head? ≠ some SP ∧ l.head? ≠ some HT ∧ l.head? ≠ some BOM := by decide +kernel

/-- Octet level, exact form: the UTF-8 octets of a folded non-empty line, split on the octet
    pair 13 10, are the encoding of the first segment followed by the encodings of SP + segment
    for the further segments; the segments concatenate to the line and have at most 74 octets.
    No `CR ∉ l` hypothesis is needed: a segment ending in CR gives 13 13 10, which splits after
    the second 13 only. -/
theorem fold_bytes_lines (l : Str) (hne : l ≠ []) (h : LF ∉ l) :
    ∃ s ss, (s :: ss).flatten = l ∧ (∀ x ∈ s :: ss, octets x ≤ 74) ∧
      splitCRLF (utf8 (foldline l)) = utf8 s :: ss.map (fun x => utf8 (SP :: x)) := by
  obtain ⟨segs, h1, h2, h3⟩ := fold_segments l
  have hseg := not_mem_of_flatten h2 h
  cases segs with
  | nil => exact absurd h2.symm hne
  | cons s ss =>
    refine ⟨s, ss, h2, h3, ?_⟩
    have := splitCRLF_join s ss hseg [] (by simp)
    rw [h1]
    simpa [sep3] using this

/-- Width clause of C06 on the octets that are written: every physical line (the octets between
    two CR LF pairs) of a folded line has at most 75 octets. -/
theorem fold_bytes_width (l : Str) (h : LF ∉ l) :
    ∀ p ∈ splitCRLF (utf8 (foldline l)), p.length ≤ 75 := by
  obtain ⟨segs, h1, h2, h3⟩ := fold_segments l
  have hseg := not_mem_of_flatten h2 h
  intro p hp
  rw [h1] at hp
  rcases splitCRLF_join_mem segs hseg p hp with rfl | ⟨x, hx, rfl | rfl⟩
  · simp
  · rw [utf8_length]; have := h3 x hx; omega
  · rw [utf8_length, octets_cons, w_SP]
    have := h3 x hx
    omega

/-- Every physical line of a folded line is the UTF-8 encoding of whole characters: no
    character's octets are separated by a fold. -/
theorem fold_bytes_utf8 (l : Str) (h : LF ∉ l) :
    ∀ p ∈ splitCRLF (utf8 (foldline l)), ∃ s : Str, p = utf8 s := by
  obtain ⟨segs, h1, h2, _⟩ := fold_segments l
  have hseg := not_mem_of_flatten h2 h
  intro p hp
  rw [h1] at hp
  rcases splitCRLF_join_mem segs hseg p hp with rfl | ⟨x, _, rfl | rfl⟩
  · exact ⟨[], rfl⟩
  · exact ⟨x, rfl⟩
  · exact ⟨SP :: x, rfl⟩

/-! Non-vacuity and a concrete instance: 40 two-octet characters are written as physical lines
    of 74 and 7 octets. -/
example : (splitCRLF (utf8 (foldline (List.replicate 40 'é')))).map List.length = [74, 7] := by
  decide +kernel

/-- Folding is the identity on every line of at most 74 octets (the code folds before the 75th
    octet: the first physical line has at most 74, see `fold_75_is_folded`). -/
theorem fold_short_identity (l : Str) (h : octets l ≤ 74) : foldline l = l := by
  unfold foldline foldlineWith
  split
  · next hasc =>
    rw [octets_ascii l hasc] at h
    by_cases hne : l = []
    · subst hne; rw [chunks.eq_1]; simp [joinSegs]
    · rw [chunks_short _ l hne (by simpa [Gen.foldLimit, Gen.foldSliceMinus] using h)]; rfl
  · exact foldUni_short _ _ l 0 (by simpa [Gen.foldLimit] using Nat.lt_succ_of_le h)

example : octets (List.replicate 37 'é') ≤ 74 := by decide +kernel

/-- … and a line of exactly 75 octets IS folded (allowed by RFC 5545, which only bounds lines by
    75 octets): 37 two-octet characters and one ASCII character become lines of 74 and 2 octets. -/
theorem fold_75_is_folded :
    octets (List.replicate 37 'é' ++ ['a']) = 75 ∧
    (splitCRLF (utf8 (foldline (List.replicate 37 'é' ++ ['a'])))).map List.length = [74, 2] := by
  decide +kernel

/-- "Exactly one added space": the folded line is longer than the line by exactly the three
    characters CR LF SP per fold — nothing else is added, nothing is removed, whatever character
    (space, tab, CR) stands at a fold point. -/
theorem fold_adds_exactly (l : Str) :
    ∃ segs, foldline l = joinSegs [CR, LF, SP] segs ∧ segs.flatten = l ∧
      (foldline l).length = l.length + 3 * (segs.length - 1) := by
  obtain ⟨segs, h1, h2, _⟩ := fold_segments l
  refine ⟨segs, h1, h2, ?_⟩
  rw [h1, joinSegs_length, h2]; rfl

/-- The restored text does not depend on the characters at the fold points: a segment that
    starts with a space or a tab keeps it (only the ONE added space is removed). -/
theorem unfold_keeps_own_space (a b : Str) (ha : LF ∉ a) (hb : LF ∉ b) (x : Char)
    (hx : x = SP ∨ x = HT) :
    unfold (joinSegs [CR, LF, SP] [a, x :: b]) = a ++ x :: b := by
  have := unfold_any_folding [a, x :: b] (by
    intro s hs
    simp only [List.mem_cons, List.not_mem_nil, or_false] at hs
    rcases hs with rfl | rfl
    · exact ha
    · intro hm
      rcases List.mem_cons.mp hm with e | hm
      · rcases hx with rfl | rfl <;> exact absurd e (by decide)
      · exact hb hm)
  simpa using this

example : unfold (joinSegs [CR, LF, SP] [['a', SP], [SP, 'b']]) = ['a', SP, SP, 'b'] :=
  unfold_keeps_own_space ['a', SP] ['b'] (by decide) (by decide) SP (Or.inl rfl)

/-- Component level on the written octets: for every list of content lines without LF, every
    physical line of `Contentlines.to_ical` (octets between two CR LF pairs) has at most 75
    octets and is the UTF-8 of whole characters. -/
theorem lines_bytes (ls : List Str) (h : ∀ l ∈ ls, LF ∉ l) :
    ∀ p ∈ splitCRLF (utf8 (linesToIcal ls)), p.length ≤ 75 ∧ ∃ s : Str, p = utf8 s := by
  intro p hp
  unfold linesToIcal at hp
  generalize hk : ls.filter (fun l => !l.isEmpty) = ks at hp
  have hks : ∀ k ∈ ks, LF ∉ k := by
    intro k hk'; rw [← hk] at hk'; exact h k (List.mem_filter.mp hk').1
  cases ks with
  | nil =>
    have e : splitCRLF (utf8 (joinWith [CR, LF] (([] : List Str).map foldline) ++ [CR, LF])) = [[], []] := by
      decide
    rw [e] at hp
    have : p = [] := by simpa using hp
    subst this; exact ⟨by simp, [], rfl⟩
  | cons k ks' =>
    rw [joinWith_append_sep [CR, LF] _ (by simp)] at hp
    rcases splitCRLF_body_mem _ p hp with rfl | ⟨f, hf, hpf⟩
    · exact ⟨by simp, [], rfl⟩
    · obtain ⟨l, hl, rfl⟩ := List.mem_map.mp hf
      exact ⟨fold_bytes_width l (hks l hl) p hpf, fold_bytes_utf8 l (hks l hl) p hpf⟩

/-- "The same holds for every line of every serialised component": whenever `to_ical` of ANY
    component tree succeeds (either value of `sorted`), every physical line of the written octets
    has at most 75 octets and is valid UTF-8 on its own. -/
theorem component_bytes (sorted : Bool) (c : Comp) (t : Str) (h : toIcal sorted c = .ok t) :
    ∀ p ∈ splitCRLF (utf8 t), p.length ≤ 75 ∧ ∃ s : Str, p = utf8 s := by
  unfold toIcal at h
  cases hc : contentLines sorted c with
  | error e => rw [hc] at h; cases h
  | ok ls =>
    rw [hc] at h
    have ht : t = linesToIcal ls := by cases h; rfl
    subst ht
    apply lines_bytes
    intro l hl
    obtain ⟨it, _, hit⟩ := mapM_ok_mem (itemLine sorted) _ ls hc l hl
    exact fromParts_no_LF _ _ _ _ l hit

example : ∃ t, toIcal false (.mk ['X'] [] []) = .ok t := by
  have : contentLines false (.mk ['X'] [] []) = .ok [['B','E','G','I','N',':','X'], ['E','N','D',':','X']] := by
    rfl
  exact ⟨_, by unfold toIcal; rw [this]; rfl⟩

/-! ## Regenerated function body = hand model

  `ICal.Gen.BodiesFold.foldline` is written by tools/py2lean.py from the current source text of
  `parser.foldline` on every run: the `try: line.encode('ascii')` test, the ASCII path
  `fold_sep.join(line[i:i + limit - 1] for i in range(0, len(line), limit - 1))` and the
  per-character loop with `byte_count` and `len(char.encode(DEFAULT_ENCODING))`.  The two `assert`s
  are preconditions (not evaluated; python -O is not modelled).  The theorems prove it equal to the
  model `foldlineWith` / `foldline` that every theorem above is about, for every `limit >= 2`
  (`limit == 1` raises ValueError in the source: `range()` step 0) and with the defaults read from the source. -/

theorem body_foldline_with (limit : Nat) (hl : 2 ≤ limit) (sep line : Str) :
    Gen.BodiesFold.foldline line (limit : Int) sep = .ok (foldlineWith limit sep line) :=
  Bodies.foldline_eq limit hl sep line

theorem body_foldline (line : Str) :
    Gen.BodiesFold.foldline line (Gen.foldLimit : Int) Gen.foldSep = .ok (foldline line) :=
  Bodies.foldline_default_eq line

example : (Gen.BodiesFold.foldline (List.replicate 4 'é') 5 ['|']).toOption = some "éé|éé".toList := by
  rw [String.toList_ofList]; decide +kernel
example : (Gen.BodiesFold.foldline "abcdefg".toList 4 ['|']).toOption = some "abc|def|g".toList := by
  repeat rw [String.toList_ofList]
  decide +kernel
example : (Gen.BodiesFold.foldline ['a'] 1 Gen.foldSep).toOption = none := by decide +kernel

end ICal.C06
