/-
  C20 — Traversal is complete and in pre-order; component equality is an order-insensitive
  equivalence that distinguishes kind, values and the multiset of subcomponents.

  Property theorems only; helper lemmas are in ICal/Lemmas/Walk.lean and ICal/Lemmas/CompEq.lean.
  `walk`, `events`, `todos`, `timezones`, `compEq` are the models of Component.walk/_walk,
  Calendar.events/todos/timezones and Component.__eq__ (Model/Walk.lean).

  Value equality (`__eq__` of the value classes of prop.py) is a parameter `veq` of `compEq`; the
  theorems assume of it exactly what each needs (reflexive / `VEquiv veq` = equivalence relation).
  `Comp.WF t` says that inside every component the property keys are pairwise distinct — they are
  keys of a Python dict, so every tree extracted from a live component satisfies it.

  Not in the model (checked on the implementation by harness/props/C20.py): comparison with
  non-components, the letter case of property names (keys are upper-cased by
  CaselessDict.__setitem__ before they reach the tree), and that deepcopy / pickle reproduce the
  attribute state — a copy with the same state is the same tree, which is `==` by `eq_refl` and
  serialises identically because serialisation is a function of the tree.  The
  serialise-and-parse copy is a theorem of the model (`reparse_eq`, on the domain of C01).
-/
import ICal.Lemmas.CompEq
import ICal.Props.C01
import ICal.Lemmas.BodiesWalk
namespace ICal.C20

/-! ### traversal -/

/-- `walk()` without name and predicate is the pre-order listing of the tree. -/
theorem walk_preorder (t : Comp) : walk none (fun _ => true) t = preorder t := by
  rw [walk_eq_filter, Option.map_none, walkTest_none]
  exact List.filter_eq_self.2 fun _ _ => rfl

/-- ... and so returns as many components as the tree has. -/
theorem walk_length (t : Comp) : (walk none (fun _ => true) t).length = size t := by
  rw [walk_preorder, preorder_length]

/-- the pre-order listing is: the component itself, then the listings of its subcomponents in order -/
theorem preorder_unfold (n : Str) (p : List Entry) (subs : List Comp) :
    preorder (.mk n p subs) = .mk n p subs :: subs.flatMap preorder :=
  preorder_eq n p subs

/-- Every nested component exactly once: the pre-order listing enumerates the positions
    (child-index paths) of the tree without repetition, each position with the component found
    there, and every position that exists in the tree is enumerated. -/
theorem walk_exactly_once (t : Comp) :
    (positions t).Nodup ∧
    (positions t).map (compAt t) = (walk none (fun _ => true) t).map some ∧
    ∀ path d, compAt t path = some d → path ∈ positions t := by
  rw [walk_preorder]
  exact ⟨positions_nodup t, positions_preorder t, positions_complete t⟩

/-- `walk(select=sel)`: the pre-order listing restricted to the predicate. -/
theorem walk_select (sel : Comp → Bool) (t : Comp) : walk none sel t = (preorder t).filter sel := by
  rw [walk_eq_filter, Option.map_none, walkTest_none]

/-- `walk(name, select)`: the pre-order listing restricted to the components whose name is the
    upper-cased requested name and that satisfy the predicate. -/
theorem walk_filter (n : Str) (sel : Comp → Bool) (t : Comp) :
    walk (some n) sel t = (preorder t).filter (fun c => c.name == upper n && sel c) := by
  rw [walk_eq_filter, Option.map_some, walkTest_some]

/-- the requested name is matched case-insensitively: any spelling with the same upper-casing
    gives the same result -/
theorem walk_name_case (n m : Str) (sel : Comp → Bool) (t : Comp) (h : upper n = upper m) :
    walk (some n) sel t = walk (some m) sel t := by
  rw [walk_filter, walk_filter, h]

/-- `events`, `todos`, `timezones` return exactly the components of that kind, in pre-order. -/
theorem events_spec (t : Comp) : events t = (preorder t).filter (fun c => c.name == VEVENT) :=
  walk_kind VEVENT (by decide +kernel) t

theorem todos_spec (t : Comp) : todos t = (preorder t).filter (fun c => c.name == VTODO) :=
  walk_kind VTODO (by decide +kernel) t

theorem timezones_spec (t : Comp) : timezones t = (preorder t).filter (fun c => c.name == VTIMEZONE) :=
  walk_kind VTIMEZONE (by decide +kernel) t

/-! ### equality -/

/-- reflexive -/
theorem eq_refl (veq : Val → Val → Bool) (hr : ∀ v, veq v v = true) (t : Comp) (hw : Comp.WF t) :
    compEq veq t t = true :=
  compEq_refl veq hr (size t) t (Nat.le_refl _) hw

/-- symmetric: `a == b` and `b == a` give the same answer -/
theorem eq_symm (veq : Val → Val → Bool) (hv : VEquiv veq) (a b : Comp) (wa : Comp.WF a) (wb : Comp.WF b) :
    compEq veq a b = compEq veq b a := by
  have S := (compEq_symm_trans veq hv (max (size a) (size b))).1
  exact Bool.eq_iff_iff.2 ⟨S a b ⟨Nat.le_max_left _ _, wa⟩ ⟨Nat.le_max_right _ _, wb⟩,
    S b a ⟨Nat.le_max_right _ _, wb⟩ ⟨Nat.le_max_left _ _, wa⟩⟩

/-- transitive -/
theorem eq_trans (veq : Val → Val → Bool) (hv : VEquiv veq) (a b c : Comp)
    (wa : Comp.WF a) (wb : Comp.WF b) (wc : Comp.WF c)
    (h1 : compEq veq a b = true) (h2 : compEq veq b c = true) : compEq veq a c = true := by
  have T := (compEq_symm_trans veq hv (max (size a) (max (size b) (size c)))).2
  exact T a b c ⟨by omega, wa⟩ ⟨by omega, wb⟩ ⟨by omega, wc⟩ h1 h2

/-- Equal iff same kind, equal property maps, and the subcomponent lists are permutations of
    each other up to equality (a one-to-one matching exists): the greedy loop of `__eq__`
    finds a matching whenever there is one. -/
theorem eq_multiset (veq : Val → Val → Bool) (hv : VEquiv veq) (a b : Comp) (wa : Comp.WF a) (wb : Comp.WF b) :
    compEq veq a b = true ↔
      a.name = b.name ∧ propsEq veq a.props b.props = true ∧
        ∃ l, l.Perm b.subs ∧ Forall2 (fun c d => compEq veq c d = true) a.subs l := by
  constructor
  · exact compEq_sound veq a b
  · rintro ⟨hn, hp, hm⟩
    apply compEq_complete veq a b hn hp hm
    have wa' := (WF_iff a).1 wa
    have wb' := (WF_iff b).1 wb
    intro c hc c' hc' x hx y hy e1 e2 e3
    have f1 : compEq veq x c = true := by
      rw [eq_symm veq hv x c (wb'.2 x hx) (wa'.2 c hc)]; exact e1
    have f2 := eq_trans veq hv c' x c (wa'.2 c' hc') (wb'.2 x hx) (wa'.2 c hc) e3 f1
    exact eq_trans veq hv c' c y (wa'.2 c' hc') (wa'.2 c hc) (wb'.2 y hy) f2 e2

/-- the order of the subcomponents is ignored -/
theorem eq_perm_subs (veq : Val → Val → Bool) (hv : VEquiv veq) (n : Str) (p : List Entry)
    (subs subs' : List Comp) (hw : Comp.WF (.mk n p subs)) (hperm : subs'.Perm subs) :
    compEq veq (.mk n p subs) (.mk n p subs') = true := by
  have hw' := (WF_iff _).1 hw
  rw [eq_multiset veq hv _ _ hw (WF_perm_subs hw hperm)]
  refine ⟨rfl, propsEq_refl veq hv.refl p hw'.1, subs, hperm.symm, ?_⟩
  exact Forall2.refl_of _ (fun c hc => eq_refl veq hv.refl c (hw'.2 c hc))

/-- the insertion order of the properties is ignored -/
theorem eq_perm_props (veq : Val → Val → Bool) (hr : ∀ v, veq v v = true) (n : Str) (p p' : List Entry)
    (subs : List Comp) (hw : Comp.WF (.mk n p subs)) (hperm : p'.Perm p) :
    compEq veq (.mk n p subs) (.mk n p' subs) = true := by
  have hw' := (WF_iff _).1 hw
  exact compEq_of_forall2 veq _ _ rfl (propsEq_perm veq hr p p' hw'.1 hperm)
    (Forall2.refl_of _ fun c hc => eq_refl veq hr c (hw'.2 c hc))

/-! ### permutations at every depth -/

/-- Congruence under permutation: if the subcomponents of `b` are a permutation of a list whose
    members are `==` to the subcomponents of `a` one by one (each of them possibly with ITS
    subcomponents permuted, and so on downwards), then `a == b`.  Applied level by level this is
    "the order of subcomponents is ignored at every depth". -/
theorem eq_congr_perm (veq : Val → Val → Bool) (hv : VEquiv veq) (n : Str) (p : List Entry)
    (subs l subs' : List Comp) (hw : Comp.WF (.mk n p subs)) (hw2 : Comp.WF (.mk n p subs'))
    (hl : l.Perm subs') (hf : Forall2 (fun c d => compEq veq c d = true) subs l) :
    compEq veq (.mk n p subs) (.mk n p subs') = true :=
  (eq_multiset veq hv _ _ hw hw2).2 ⟨rfl, propsEq_refl veq hv.refl p ((WF_iff _).1 hw).1, l, hl, hf⟩

/-- Two levels at once: permuting the children and, inside one child, the grandchildren. -/
theorem eq_perm_depth2 (veq : Val → Val → Bool) (hv : VEquiv veq) (n m : Str) (p q : List Entry)
    (xs xs' rest rest' : List Comp) (hw : Comp.WF (.mk n p (.mk m q xs :: rest)))
    (hx : xs'.Perm xs) (hr : rest'.Perm (.mk m q xs' :: rest)) :
    compEq veq (.mk n p (.mk m q xs :: rest)) (.mk n p rest') = true := by
  have hw' := (WF_iff _).1 hw
  have hin : Comp.WF (.mk m q xs) := hw'.2 _ (by simp [Comp.subs])
  have hin2 : Comp.WF (.mk m q xs') := WF_perm_subs hin hx
  have hw2 : Comp.WF (.mk n p rest') := by
    refine (WF_iff _).2 ⟨hw'.1, fun c hc => ?_⟩
    have hc' : c ∈ Comp.mk m q xs' :: rest := hr.mem_iff.1 hc
    rcases List.mem_cons.mp hc' with rfl | hc'
    · exact hin2
    · exact hw'.2 c (by simp [Comp.subs, hc'])
  refine eq_congr_perm veq hv n p _ (.mk m q xs' :: rest) rest' hw hw2 hr.symm ?_
  refine Forall2.cons (eq_perm_subs veq hv m q xs xs' hin hx) ?_
  exact Forall2.refl_of _ (fun c hc => eq_refl veq hv.refl c (hw'.2 c (by simp [Comp.subs, hc])))

/-- components of different kind are never equal -/
theorem eq_distinguishes_kind (veq : Val → Val → Bool) (a b : Comp) (h : a.name ≠ b.name) :
    compEq veq a b = false := by
  rw [compEq_def]; simp [h]

/-- a different number of subcomponents is never equal -/
theorem eq_distinguishes_count (veq : Val → Val → Bool) (a b : Comp) (h : a.subs.length ≠ b.subs.length) :
    compEq veq a b = false := by
  rw [compEq_def]; simp [h]

/-- a property of `a` that `b` lacks, or holds with an unequal value (or as a list where `a`
    has a single value, or with one list element unequal), makes them unequal -/
theorem eq_distinguishes_value (veq : Val → Val → Bool) (a b : Comp) (e : Entry) (he : e ∈ a.props)
    (h : ∀ e', b.props.find? (fun x => x.name == e.name) = some e' → entryEq veq e e' = false) :
    compEq veq a b = false := by
  cases hc : compEq veq a b with
  | false => rfl
  | true =>
    obtain ⟨_, hp, _⟩ := compEq_sound veq a b hc
    obtain ⟨e', hf, hee⟩ := ((propsEq_iff veq _ _).1 hp).2 e he
    rw [h e' hf] at hee
    cases hee

/-- a subcomponent of `a` that equals no subcomponent of `b` makes them unequal (at any depth,
    by induction: a perturbed descendant makes its ancestor chain unequal to the originals) -/
theorem eq_distinguishes_sub (veq : Val → Val → Bool) (a b : Comp) (c : Comp) (hc : c ∈ a.subs)
    (h : ∀ d ∈ b.subs, compEq veq c d = false) : compEq veq a b = false := by
  rw [compEq_def]
  have := greedy_false_of_unmatched (a.subs.map (compEq veq)) b.subs (compEq veq c)
    (List.mem_map_of_mem hc) h
  simp [this]

/-- the multiset of subcomponents matters, not the set: `{e, e}` and `{e, f}` differ when
    `e` and `f` differ, although every subcomponent of the first occurs in the second -/
theorem eq_distinguishes_multiplicity (veq : Val → Val → Bool) (hr : ∀ v, veq v v = true) (n : Str) (p : List Entry)
    (e f : Comp) (we : Comp.WF e) (hef : compEq veq e f = false) :
    compEq veq (.mk n p [e, e]) (.mk n p [e, f]) = false := by
  rw [compEq_def]
  have hee := eq_refl veq hr e we
  simp [Comp.subs, greedy, removeFirst, hee, hef]

/-! ### the serialise-and-parse copy -/

/-- For every tree of C01's domain (names upper-case and escape-free, property names pairwise
    distinct, entries and values the parser can reproduce, VTIMEZONEs the parser can cache, items
    that make well-formed content lines): `to_ical()` succeeds, `from_ical` of its output returns
    exactly one component and no error, and that component is `==` to the original in both
    directions (for any reflexive value equality) and serialises to the same text.  The parsed
    tree differs from the original only in the insertion order of the properties of each
    component. -/
theorem reparse_eq (veq : Val → Val → Bool) (hr : ∀ v, veq v v = true)
    (tzok : Comp → Bool) (dec : Dec) (t : Comp)
    (hwf : WF dec t) (htz : TzOK tzok true t) (h : ∀ it ∈ items true t, ICal.C01.ItemOK it) :
    ∃ text t', toIcal true t = .ok text ∧ parseText tzok dec false text = some ([t'], []) ∧
      compEq veq t t' = true ∧ compEq veq t' t = true ∧ toIcal true t' = .ok text := by
  obtain ⟨text, h1, h2⟩ := ICal.C01.parse_toIcal tzok dec t hwf htz h
  have hw : Comp.WF t := compWF_of_WF dec t hwf
  have he := compEq_sortedTree veq true hr t hw
  refine ⟨text, sortedTree true t, h1, h2, he.1, he.2, ?_⟩
  rw [← h1]
  simp only [toIcal, contentLines, items_sortedTree]

/-- the structural value equality used by the driver is an equivalence relation, so the
    hypotheses above are satisfiable -/
theorem veqStructural_equiv : VEquiv veqStructural := by
  refine ⟨?_, ?_, ?_⟩
  · intro v; simp [veqStructural]
  · intro a b h; simp only [veqStructural, decide_eq_true_eq] at h ⊢; exact h.symm
  · intro a b c h1 h2; simp only [veqStructural, decide_eq_true_eq] at h1 h2 ⊢; exact h1.trans h2

/-! ### non-vacuity: concrete trees -/

section examples

private def tv (s : String) : Val := { kind := "vText".toList, text := s.toList, params := [] }
private def dt (s z : String) : Val :=
  { kind := "vDDDTypes".toList, text := s.toList, params := [("TZID".toList, .one z.toList)] }
private def ev (s : String) : Comp :=
  .mk VEVENT [{ name := "SUMMARY".toList, isList := false, vals := [tv s] },
              { name := "DTSTART".toList, isList := false, vals := [dt "20200101T120000" "Europe/Berlin"] }] []
private def xfoo : Comp := .mk "X-FOO".toList [] [ev "a"]
private def cal : Comp := .mk "VCALENDAR".toList [] [ev "a", xfoo, .mk VTODO [] [], ev "b", ev "a"]
private def cal' : Comp := .mk "VCALENDAR".toList [] [ev "a", ev "b", ev "a", .mk VTODO [] [], xfoo]

example (a b : Comp) : [b, a].Perm [a, b] := List.Perm.swap a b []
example : (walk none (fun _ => true) cal).map (·.name) =
    ["VCALENDAR", "VEVENT", "X-FOO", "VEVENT", "VTODO", "VEVENT", "VEVENT"].map String.toList := by decide +kernel
example : (events cal).length = 4 ∧ (todos cal).length = 1 ∧ (timezones cal).length = 0 := by decide +kernel
example : (walk (some "vEvent".toList) (fun c => c.subs.isEmpty) cal).length = 4 := by decide +kernel
example : positions cal = [[], [0], [1], [1, 0], [2], [3], [4]] := by decide +kernel
example : compEq veqStructural cal cal' = true ∧ compEq veqStructural cal' cal = true := by decide +kernel
example : compEq veqStructural (ev "a") (ev "b") = false := by decide +kernel
example : compEq veqStructural (.mk VEVENT [] []) (.mk VTODO [] []) = false := by decide +kernel
example : compEq veqStructural (.mk VEVENT [] [ev "a", ev "a"]) (.mk VEVENT [] [ev "a", ev "b"]) = false := by
  unfold ev tv dt VEVENT
  repeat rw [String.toList_ofList]
  decide +kernel
/-- the recorded finding `one-element-list-vs-scalar`: a one-element list and the single value
    serialise alike but are not equal -/
example : compEq veqStructural
    (.mk VEVENT [{ name := "ATTENDEE".toList, isList := true, vals := [tv "a"] }] [])
    (.mk VEVENT [{ name := "ATTENDEE".toList, isList := false, vals := [tv "a"] }] []) = false := by decide +kernel

/-- `reparse_eq` applies to a tree whose entries the serialiser reorders (ATTENDEE was inserted
    before SUMMARY; SUMMARY is in VEVENT's canonical order): the hypotheses hold, the parsed tree
    has another entry order, and it is equal to the original both ways. -/
private def rsample : Comp :=
  .mk "VCALENDAR".toList [{ name := "VERSION".toList, isList := false, vals := [tv "2.0"] }]
    [.mk VEVENT
      [{ name := "ATTENDEE".toList, isList := true,
         vals := [{ kind := "vCalAddress".toList, text := "mailto:a@example.com".toList,
                    params := [("CN".toList, .one "A, B".toList)] },
                  { kind := "vCalAddress".toList, text := "mailto:b@example.com".toList, params := [] }] },
       { name := "SUMMARY".toList, isList := false, vals := [tv "x"] }]
      [.mk "VALARM".toList [{ name := "ACTION".toList, isList := false, vals := [tv "DISPLAY"] }] []]]
example : ∃ text t', toIcal true rsample = .ok text ∧
    parseText (fun _ => true) (fun _ t _ => some t) false text = some ([t'], []) ∧
    compEq veqStructural rsample t' = true ∧ compEq veqStructural t' rsample = true ∧
    toIcal true t' = .ok text :=
  reparse_eq veqStructural veqStructural_equiv.refl (fun _ => true) (fun _ t _ => some t) rsample
    (by
      unfold rsample tv VEVENT
      repeat rw [String.toList_ofList]
      simp only [WF, WFs, and_true]
      decide +kernel)
    (TzOK_true true rsample)
    (by
      unfold rsample tv VEVENT
      repeat rw [String.toList_ofList]
      decide +kernel)
example : (sortedTree true rsample).subs.map (fun c => c.props.map (·.name)) =
    [["SUMMARY".toList, "ATTENDEE".toList]] := by decide +kernel

end examples

/-! ## Regenerated function bodies = hand model

  `ICal.Gen.BodiesWalk.Component__walk` / `Component_walk` are written by tools/py2lean.py from the current source
  of `Component._walk` / `Component.walk` on every run (the recursion over the tree, the loop
  `result += subcomponent._walk(name, select)`, the test `(name is None or self.name == name) and select(self)`,
  the upper-casing of the requested name; `select` is a function argument, ASCII upper-casing as in the model).
  The theorems prove them equal to `walkAux` / `walk`, which the theorems above are about. -/

theorem body__walk (name : Option Str) (sel : Comp → Bool) (c : Comp) :
    Gen.BodiesWalk.Component__walk c name sel = walkAux name sel c :=
  Bodies.Component__walk_eq name sel c

theorem body_walk (name : Option Str) (sel : Comp → Bool) (c : Comp) :
    Gen.BodiesWalk.Component_walk c name sel = walk name sel c :=
  Bodies.Component_walk_eq name sel c

end ICal.C20
