/-
  Equality of the regenerated `Calendar.timezones` / `get_used_tzids` / `get_missing_tzids` / `add_missing_timezones`
  (ICal/Gen/BodiesTzUse.lean, tools/py2lean.py: a Python `set` built by `add` / `update` over the pairs of
  `property_items(sorted=False)`, `- {None}`, `discard` over `self.timezones`, `for .. in sorted(..)` with
  `try .. except ValueError: continue`, a method that changes `self`) with the hand model of ICal/Model/TzUse.lean.

  A Python set has no order: the regenerated bodies return duplicate-free lists in insertion order and the theorems
  compare them SORTED (`sortStr`) with the model, which is sorted by construction - the statement does not depend on
  the iteration order Python leaves unspecified.  `property_items` and `walk` are the regenerated bodies of
  Gen/BodiesSer.lean / Gen/BodiesWalk.lean, proved equal to their models in Lemmas/BodiesSer.lean / BodiesWalk.lean.
-/
import ICal.Model.TzUsePieces
import ICal.Lemmas.BodiesSer
import ICal.Lemmas.BodiesWalk
import ICal.Lemmas.TzUse
import ICal.Lemmas.CompEq
import ICal.Lemmas.PySorted
namespace ICal.Bodies
open ICal ICal.PyRT ICal.Gen.BodiesTzUse

theorem mem_setAdd {α : Type} [BEq α] [LawfulBEq α] (s : List α) (x y : α) : y ∈ setAdd s x ↔ y ∈ s ∨ y = x := by
  unfold setAdd
  split
  · next h => exact (or_iff_left_of_imp fun e => e ▸ List.contains_iff_mem.1 h).symm
  · rw [List.mem_append, List.mem_singleton]

theorem nodup_setAdd {α : Type} [BEq α] [LawfulBEq α] (s : List α) (x : α) (hs : s.Nodup) : (setAdd s x).Nodup := by
  unfold setAdd
  split
  · exact hs
  · next h =>
    exact (List.perm_append_singleton x s).nodup_iff.2 (List.nodup_cons.2 ⟨fun hx => h (List.contains_iff_mem.2 hx), hs⟩)

theorem mem_setUpdate {α : Type} [BEq α] [LawfulBEq α] : ∀ (xs s : List α) (y : α), y ∈ setUpdate s xs ↔ y ∈ s ∨ y ∈ xs
  | [], s, y => by simp [setUpdate]
  | x :: xs, s, y => by
    rw [setUpdate, List.foldl_cons, ← setUpdate, mem_setUpdate xs, mem_setAdd, List.mem_cons, or_assoc]

theorem nodup_setUpdate {α : Type} [BEq α] [LawfulBEq α] : ∀ (xs s : List α), s.Nodup → (setUpdate s xs).Nodup
  | [], _, h => h
  | x :: xs, s, h => nodup_setUpdate xs (setAdd s x) (nodup_setAdd s x h)

theorem mem_setDropNone {α : Type} (s : List (Option α)) (k : α) : k ∈ setDropNone s ↔ some k ∈ s := by
  simp [setDropNone, List.mem_filterMap]

theorem nodup_setDropNone {α : Type} (s : List (Option α)) (h : s.Nodup) : (setDropNone s).Nodup :=
  List.Pairwise.filterMap (S := (· ≠ ·)) id
    (fun _ _ hne _ hb _ hb' e => hne (hb.trans ((congrArg some e).trans hb'.symm))) h

theorem setDiscard_eq (s : List Str) (x : Str) : setDiscard s x = s.filter (fun y => !(y == x)) := rfl

/-- what one pair of `property_items` contributes -/
def itemTzids : PyItem → List Str
  | (_, .obj v) => valTzids v
  | _ => []

/-- what one iteration of the loop of `get_used_tzids` adds to the set -/
def addedU (it : PyItem) : List (Option Str) :=
  if hasParamsP it.2 then
    match tzidParamP it.2 with
    | .many l => l.map some
    | .one o => [o]
  else []

theorem used_loop_eq : ∀ (items : List PyItem) (acc : List (Option Str)),
    Calendar_get_used_tzids_loop1 nameToIcalP sortedKeysP keysP getitemP hasParamsP tzidParamP acc items =
      .ok (setUpdate acc (items.flatMap addedU))
  | [], acc => rfl
  | it :: rest, acc => by
    rw [Calendar_get_used_tzids_loop1, List.flatMap_cons, setUpdate, List.foldl_append]
    unfold addedU
    by_cases h : hasParamsP it.2 = true
    · simp only [h, if_true]
      cases tzidParamP it.2 <;> exact used_loop_eq rest _
    · simp only [h, if_false, Bool.false_eq_true]
      exact used_loop_eq rest _

theorem mem_addedU (it : PyItem) (k : Str) : some k ∈ addedU it ↔ k ∈ itemTzids it := by
  obtain ⟨n, iv⟩ := it
  cases iv with
  | bytes b => simp [addedU, hasParamsP, itemTzids]
  | list vs => simp [addedU, hasParamsP, itemTzids]
  | obj v =>
    simp only [addedU, hasParamsP, if_true, tzidParamP, itemTzids, valTzids]
    cases h : v.params.get? TZID with
    | none => simp
    | some pv => cases pv <;> simp [eq_comm]

/-- the TZID parameters found on the pairs of the entries, keys distinct: those of the entries -/
theorem mem_props_items (props : List Entry) (hd : keysDistinct props) (k : Str) :
    k ∈ ((props.map (·.name)).flatMap (entryPyItems props)).flatMap itemTzids ↔ k ∈ propsTzids props := by
  simp only [List.mem_flatMap, List.mem_map, propsTzids, entryTzids]
  constructor
  · rintro ⟨it, ⟨n, ⟨e, he, rfl⟩, hit⟩, hk⟩
    rw [entryPyItems, find_of_distinct props hd e he] at hit
    simp only [List.mem_map] at hit
    obtain ⟨v, hv, rfl⟩ := hit
    exact ⟨e, he, v, hv, hk⟩
  · rintro ⟨e, he, v, hv, hk⟩
    refine ⟨(e.name, PyIV.obj v), ⟨e.name, ⟨e, he, rfl⟩, ?_⟩, hk⟩
    rw [entryPyItems, find_of_distinct props hd e he]
    exact List.mem_map.2 ⟨v, hv, rfl⟩

mutual
theorem mem_pyItems_tzids (k : Str) : ∀ (t : Comp), t.WF →
    (k ∈ (pyItems false t).flatMap itemTzids ↔ k ∈ rawTzids t)
  | .mk name props subs, hw => by
    have hp := mem_props_items props hw.1 k
    have hs := mem_pyItemsL_tzids k subs hw.2
    simp only [pyItems, rawTzids, propNames, List.flatMap_cons, List.flatMap_append, List.mem_append, itemTzids,
      List.flatMap_nil, List.not_mem_nil, false_or, or_false, Bool.false_eq_true, if_false] at hp hs ⊢
    rw [hp, hs]
theorem mem_pyItemsL_tzids (k : Str) : ∀ (cs : List Comp), Comp.WFL cs →
    (k ∈ (pyItemsL false cs).flatMap itemTzids ↔ k ∈ rawTzidsL cs)
  | [], _ => by simp [pyItemsL, rawTzidsL]
  | c :: cs, hw => by
    simp only [pyItemsL, rawTzidsL, List.flatMap_append, List.mem_append, mem_pyItems_tzids k c hw.1,
      mem_pyItemsL_tzids k cs hw.2]
end

/-- the duplicate-free list the regenerated `get_used_tzids` returns -/
def usedList (t : Comp) : List Str := setDropNone (setUpdate [] ((pyItems false t).flatMap addedU))

theorem usedTzidsP_eq (t : Comp) : usedTzidsP t = .ok (usedList t) := by
  obtain ⟨n, p, subs⟩ := t
  simp only [usedTzidsP, Calendar_get_used_tzids, property_items_eq false (.mk n p subs), used_loop_eq, bind, Except.bind,
    pure, Except.pure, usedList]

theorem usedList_nodup (t : Comp) : (usedList t).Nodup :=
  nodup_setDropNone _ (nodup_setUpdate _ _ List.nodup_nil)

theorem mem_usedList (t : Comp) (hw : t.WF) (k : Str) : k ∈ usedList t ↔ k ∈ usedTzids t := by
  rw [usedList, mem_setDropNone, mem_setUpdate, usedTzids, mem_toSet, ← mem_pyItems_tzids k t hw]
  simp only [List.not_mem_nil, false_or, List.mem_flatMap, mem_addedU]

theorem sort_usedList (t : Comp) (hw : t.WF) : sortStr (usedList t) = usedTzids t := by
  rw [sortStr_congr (usedList t) (usedTzids t) (usedList_nodup t) (toSet_nodup _) (mem_usedList t hw)]
  exact sortStr_of_sorted _ (usedTzids_sorted t)

theorem timezones_eq (t : Comp) : Calendar_timezones t = timezones t := by
  obtain ⟨n, p, subs⟩ := t
  simp only [Calendar_timezones, Component_walk_eq, timezones]
  rfl

/-- what the loop of `get_missing_tzids` discards: the names of the VTIMEZONEs that have a TZID -/
def discarded (cs : List Comp) : List Str := (cs.filter hasTzidP).map (fun c => (tzName? c).getD [])

theorem tzNameP_ok (c : Comp) (h : hasTzidP c = true) : tzNameP c = .ok ((tzName? c).getD []) := by
  unfold tzNameP
  unfold hasTzidP at h
  cases hf : c.props.find? (fun e => e.name == TZID) with
  | none => rw [hf] at h; cases h
  | some e => rfl

theorem discarded_cons (c : Comp) (cs : List Comp) :
    discarded (c :: cs) = if hasTzidP c then (tzName? c).getD [] :: discarded cs else discarded cs := by
  unfold discarded
  rw [List.filter_cons]
  split <;> rfl

theorem missing_loop_eq : ∀ (cs : List Comp) (acc : List Str),
    Calendar_get_missing_tzids_loop1 nameToIcalP sortedKeysP keysP getitemP hasParamsP tzidParamP hasTzidP tzNameP acc cs =
      .ok (acc.filter (fun k => !(discarded cs).contains k))
  | [], acc => by
    rw [Calendar_get_missing_tzids_loop1]
    exact congrArg Except.ok (List.filter_eq_self.2 (fun _ _ => rfl)).symm
  | c :: rest, acc => by
    rw [Calendar_get_missing_tzids_loop1, discarded_cons]
    by_cases h : hasTzidP c = true
    · simp only [h, if_true, tzNameP_ok c h, bind, Except.bind, pure, Except.pure]
      rw [missing_loop_eq rest, setDiscard_eq, List.filter_filter]
      congr 1
      apply List.filter_congr
      intro k _
      simp only [List.contains_cons, Bool.not_or, Bool.and_comm]
    · simp only [h, if_false, Bool.false_eq_true, bind, Except.bind, pure, Except.pure]
      exact missing_loop_eq rest acc

/-- inside the model's domain the discarded names are the model's `tzNames` -/
theorem discarded_eq (t : Comp) (hd : tzDomainP t = true) : discarded (timezones t) = tzNames t := by
  unfold tzDomainP at hd
  unfold discarded tzNames
  generalize timezones t = cs at hd
  induction cs with
  | nil => rfl
  | cons c rest ih =>
    simp only [List.all_cons, Bool.and_eq_true] at hd
    have ih' := ih hd.2
    by_cases h : hasTzidP c = true
    · have hs : (tzName? c).isSome = true := by simpa [h] using hd.1
      obtain ⟨s, hs'⟩ := Option.isSome_iff_exists.1 hs
      simp only [List.filter_cons, h, if_true, List.map_cons, List.filterMap_cons, hs', Option.getD_some, ih']
    · have hn : tzName? c = none := by
        unfold hasTzidP at h
        unfold tzName?
        cases hf : c.props.find? (fun e => e.name == TZID) with
        | none => rfl
        | some e => simp [hf] at h
      simp only [List.filter_cons, h, if_false, Bool.false_eq_true, List.filterMap_cons, hn, ih']

/-- the duplicate-free list the regenerated `get_missing_tzids` returns -/
def missingList (t : Comp) : List Str := (usedList t).filter (fun k => !(discarded (timezones t)).contains k)

theorem missingTzidsP_eq (t : Comp) : missingTzidsP t = .ok (missingList t) := by
  have hu := usedTzidsP_eq t
  obtain ⟨n, p, subs⟩ := t
  simp only [usedTzidsP] at hu
  simp only [missingTzidsP, Calendar_get_missing_tzids, hu, timezones_eq, missing_loop_eq, bind, Except.bind, pure,
    Except.pure, missingList]

theorem missingList_nodup (t : Comp) : (missingList t).Nodup := (usedList_nodup t).sublist List.filter_sublist

theorem sort_missingList (t : Comp) (hw : t.WF) (hd : tzDomainP t = true) : sortStr (missingList t) = missingTzids t := by
  have hm : ∀ k, k ∈ missingList t ↔ k ∈ missingTzids t := by
    intro k
    simp only [missingList, missingTzids, List.mem_filter, mem_usedList t hw, discarded_eq t hd]
  rw [sortStr_congr _ _ (missingList_nodup t) (missingTzids_nodup t) hm]
  exact sortStr_of_sorted _ (missingTzids_sorted t)

theorem add_loop_eq (knows : Str → Bool) : ∀ (ks : List Str) (n : Str) (p : List Entry) (subs : List Comp),
    Calendar_add_missing_timezones_loop1 (DT := Unit) nameToIcalP sortedKeysP keysP getitemP hasParamsP tzidParamP hasTzidP tzNameP
      (fromTzidP knows) tzAddComponentP () () (.mk n p subs) ks = .ok (.mk n p (subs ++ (ks.filter knows).map genTz))
  | [], n, p, subs => by simp [Calendar_add_missing_timezones_loop1, pure, Except.pure]
  | k :: rest, n, p, subs => by
    simp only [Calendar_add_missing_timezones_loop1, fromTzidP]
    by_cases h : knows k = true
    · simp only [h, if_true, bind, Except.bind, pure, Except.pure, tzAddComponentP]
      rw [add_loop_eq knows rest]
      simp [h]
    · simp only [h, if_false, Bool.false_eq_true, bind, Except.bind]
      have hc : caught valueErrors Exc.valueError = true := by decide
      simp only [hc, if_true]
      rw [add_loop_eq knows rest]
      simp [h]

theorem addMissingP_eq (knows : Str → Bool) (t : Comp) (hw : t.WF) (hd : tzDomainP t = true) :
    addMissingP knows t = .ok (addMissing knows t) := by
  have hm := missingTzidsP_eq t
  have hs := sort_missingList t hw hd
  obtain ⟨n, p, subs⟩ := t
  simp only [missingTzidsP] at hm
  simp only [addMissingP, Calendar_add_missing_timezones, hm, bind, Except.bind, pure, Except.pure, pySortedStr_eq, hs,
    add_loop_eq, addMissing]

end ICal.Bodies
