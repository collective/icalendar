/-
  One content line.  `unfold` copies a segment without LF and drops the separator CR LF SP (`unfold_seg`,
  `unfold_sep`), hence `unfold_join`.  Both paths of `foldline` cut the line into segments of at most
  `limit - 1` octets and join them with the separator (`foldlineWith_segs`).
-/
import ICal.Model.Fold
namespace ICal

def sep3 : Str := [CR, LF, SP]

theorem foldSep_eq : Gen.foldSep = sep3 := by decide

theorem eatNL_nil : eatNL [] = none := by
  unfold eatNL; rfl

theorem eatNL_none_of (c : Char) (cs : Str) (h1 : c ≠ LF)
    (h2 : c = CR → cs.head? ≠ some LF) : eatNL (c :: cs) = none := by
  unfold eatNL
  split
  · next cs' heq =>
    simp at heq; obtain ⟨rfl, rfl⟩ := heq
    exact absurd rfl (h2 rfl)
  · next cs' heq => simp at heq; exact absurd heq.1 h1
  · rfl

theorem eatNL_plain (c : Char) (cs : Str) (h1 : c ≠ CR) (h2 : c ≠ LF) : eatNL (c :: cs) = none :=
  eatNL_none_of c cs h2 (fun e => absurd e h1)

theorem unfold_nil : unfold [] = [] := by rw [unfold]

theorem eatNL_crlf (cs : Str) : eatNL (CR :: LF :: cs) = some ((eatNL cs).getD cs) := by
  simp only [CR, LF]; rw [eatNL]

theorem eatNL_lf (cs : Str) : eatNL (LF :: cs) = some ((eatNL cs).getD cs) := by
  simp only [LF]; rw [eatNL]

theorem unfold_cons_fold (c : Char) (cs : Str) (x : Char) (rest : Str)
    (h : eatNL (c :: cs) = some (x :: rest)) (hws : Gen.foldWs.contains x = true) :
    unfold (c :: cs) = unfold rest := by
  rw [unfold]; split
  · next x' rest' heq =>
    rw [h] at heq; simp only [Option.some.injEq, List.cons.injEq] at heq
    obtain ⟨rfl, rfl⟩ := heq
    rw [if_pos hws]
  · next hne => exact absurd h (hne x rest)

def NoFoldAt (t : Str) : Prop := ∀ x rest, eatNL t = some (x :: rest) → Gen.foldWs.contains x = false

theorem unfold_cons_copy (c : Char) (cs : Str) (h : NoFoldAt (c :: cs)) :
    unfold (c :: cs) = c :: unfold cs := by
  rw [unfold]; split
  · next x rest heq => rw [h x rest heq]; rfl
  · rfl

/-- induction along the scanner: at each position it drops a fold or copies one character -/
theorem unfold_cases {P : Str → Prop} (hnil : P [])
    (hfold : ∀ c cs x rest, eatNL (c :: cs) = some (x :: rest) → Gen.foldWs.contains x = true →
      P rest → P (c :: cs))
    (hcopy : ∀ c cs, NoFoldAt (c :: cs) → P cs → P (c :: cs)) : ∀ t, P t := by
  intro t
  fun_induction unfold t with
  | case1 => exact hnil
  | case2 c cs x rest h hws ih => exact hfold c cs x rest h hws ih
  | case3 c cs x rest h hws ih =>
    exact hcopy c cs (fun x' rest' h' => by rw [h] at h'; cases h'; simpa using hws) ih
  | case4 c cs h ih => exact hcopy c cs (fun x' rest' h' => absurd h' (h x' rest')) ih

theorem foldWs_CR : Gen.foldWs.contains CR = false := by decide
theorem foldWs_ne {x : Char} (h : Gen.foldWs.contains x = true) : x ≠ CR ∧ x ≠ LF := by
  constructor <;> (intro e; subst e; revert h; decide)

theorem foldWs_not (x : Char) (h1 : x ≠ SP) (h2 : x ≠ HT) : Gen.foldWs.contains x = false := by
  simp only [Gen.foldWs, SP, HT] at *
  simp [h1, h2]

theorem unfold_breaks_of_eatNL_none (t : Str) (hn : eatNL t = none)
    (hws : ∀ x rest, t = x :: rest → Gen.foldWs.contains x = false) :
    unfold (CR :: LF :: t) = CR :: LF :: unfold t ∧ unfold (LF :: t) = LF :: unfold t := by
  have e1 : eatNL (CR :: LF :: t) = some t := by rw [eatNL_crlf, hn]; rfl
  have e2 : eatNL (LF :: t) = some t := by rw [eatNL_lf, hn]; rfl
  have h2 : unfold (LF :: t) = LF :: unfold t :=
    unfold_cons_copy LF t (fun x rest h => hws x rest (Option.some.inj (e2.symm.trans h)))
  exact ⟨by rw [unfold_cons_copy CR _ (fun x rest h => hws x rest (Option.some.inj (e1.symm.trans h))), h2], h2⟩

theorem not_mem_of_flatten {α : Type} {x : α} {segs : List (List α)} {l : List α} (h2 : segs.flatten = l) (h : x ∉ l) :
    ∀ s ∈ segs, x ∉ s :=
  fun s hs hm => h (h2 ▸ List.mem_flatten.mpr ⟨s, hs, hm⟩)

theorem unfold_seg (s t : Str) (hs : LF ∉ s) (ht : s.getLast? = some CR → t.head? ≠ some LF) :
    unfold (s ++ t) = s ++ unfold t := by
  induction s with
  | nil => rfl
  | cons c cs ih =>
    have hc : c ≠ LF := fun h => hs (h ▸ List.mem_cons_self)
    have hcs : LF ∉ cs := fun h => hs (List.mem_cons_of_mem _ h)
    have hn : eatNL (c :: (cs ++ t)) = none := by
      refine eatNL_none_of c _ hc (fun e => ?_)
      cases cs with
      | nil => exact ht (e ▸ rfl)
      | cons d ds => exact fun h => hcs (Option.some.inj h ▸ List.mem_cons_self)
    have ht' : cs.getLast? = some CR → t.head? ≠ some LF := fun e => ht (by rw [List.getLast?_cons, e]; rfl)
    rw [List.cons_append, unfold_cons_copy c _ (fun x rest h => by rw [hn] at h; cases h), ih hcs ht']; rfl

theorem unfold_plain_seg (s t : Str) (hs : ∀ c ∈ s, c ≠ CR ∧ c ≠ LF) :
    unfold (s ++ t) = s ++ unfold t :=
  unfold_seg s t (fun h => (hs LF h).2 rfl) (fun h => absurd rfl (hs CR (List.mem_of_getLast? h)).1)

theorem unfold_sep (t : Str) : unfold (sep3 ++ t) = unfold t := by
  have e : eatNL (CR :: LF :: SP :: t) = some (SP :: t) := by
    rw [eatNL_crlf, eatNL_plain SP t (by decide) (by decide)]; rfl
  exact unfold_cons_fold CR _ SP t e (by decide)

theorem unfold_join_append : ∀ (segs : List Str) (t : Str), (∀ s ∈ segs, LF ∉ s) →
    t.head? ≠ some LF →
    unfold (joinSegs sep3 segs ++ t) = segs.flatten ++ unfold t
  | [], t, _, _ => by simp [joinSegs]
  | [s], t, h, ht => by
    have := unfold_seg s t (h s (by simp)) (fun _ => ht)
    simpa [joinSegs] using this
  | s :: u :: ss, t, h, ht => by
    have ih := unfold_join_append (u :: ss) t
      (fun x hx => h x (by simp at hx ⊢; right; exact hx)) ht
    simp only [joinSegs, List.append_assoc]
    rw [unfold_seg s _ (h s (by simp)) (fun _ => by simp [sep3, LF, CR]), unfold_sep, ih]
    simp

theorem unfold_join (segs : List Str) (h : ∀ s ∈ segs, LF ∉ s) :
    unfold (joinSegs sep3 segs) = segs.flatten := by
  simpa [unfold_nil] using unfold_join_append segs [] h (by simp)

/-- the same computation as `foldUni`, returning the open segment and the closed ones after it -/
def segsUni (limit : Nat) : Nat → Str → Str × List Str
  | _, [] => ([], [])
  | cnt, c :: cs =>
    if cnt + w c ≥ limit then ([], (c :: (segsUni limit (w c) cs).1) :: (segsUni limit (w c) cs).2)
    else (c :: (segsUni limit (cnt + w c) cs).1, (segsUni limit (cnt + w c) cs).2)

theorem joinSegs_cons_cons (sep : Str) (c : Char) (s : Str) (ss : List Str) :
    joinSegs sep ((c :: s) :: ss) = c :: joinSegs sep (s :: ss) := by
  cases ss <;> rfl

theorem joinSegs_length (sep : Str) : ∀ segs : List Str,
    (joinSegs sep segs).length = segs.flatten.length + sep.length * (segs.length - 1)
  | [] => by simp [joinSegs]
  | [s] => by simp [joinSegs]
  | s :: t :: ss => by
    have ih := joinSegs_length sep (t :: ss)
    simp only [joinSegs, List.length_append, ih, List.flatten_cons, List.length_cons]
    simp only [Nat.add_sub_cancel, Nat.mul_add, Nat.mul_one]
    omega

theorem foldUni_eq_join (limit : Nat) (sep : Str) (cnt : Nat) (l : Str) :
    foldUni limit sep cnt l = joinSegs sep ((segsUni limit cnt l).1 :: (segsUni limit cnt l).2) := by
  induction l generalizing cnt with
  | nil => rfl
  | cons c cs ih =>
    rw [foldUni, segsUni]
    split
    · rw [ih, joinSegs, joinSegs_cons_cons]; rfl
    · rw [ih, joinSegs_cons_cons]

theorem segsUni_flatten (limit cnt : Nat) (l : Str) :
    ((segsUni limit cnt l).1 :: (segsUni limit cnt l).2).flatten = l := by
  induction l generalizing cnt with
  | nil => rfl
  | cons c cs ih =>
    rw [segsUni]
    split
    · exact congrArg (c :: ·) (ih (w c))
    · exact congrArg (c :: ·) (ih (cnt + w c))

theorem octets_cons (c : Char) (s : Str) : octets (c :: s) = w c + octets s := by
  simp [octets]

theorem w_SP : w SP = 1 := by decide

theorem octets_append (a b : Str) : octets (a ++ b) = octets a + octets b := by
  simp [octets]

/-- width invariant: the open segment fits in what is left of the budget, the closed ones in the
    whole of it (`limit` itself is never reached: a fold comes first) -/
theorem segsUni_width (limit : Nat) (hl : 5 ≤ limit) (l : Str) :
    ∀ cnt, cnt < limit →
    cnt + octets (segsUni limit cnt l).1 < limit ∧ ∀ s ∈ (segsUni limit cnt l).2, octets s < limit := by
  induction l with
  | nil => intro cnt hc; exact ⟨hc, fun s hs => nomatch hs⟩
  | cons c cs ih =>
    intro cnt hc
    have hw : w c ≤ 4 := Char.utf8Size_le_four c
    rw [segsUni]
    split
    · obtain ⟨h1, h2⟩ := ih (w c) (by omega)
      refine ⟨hc, fun s hs => ?_⟩
      rcases List.mem_cons.mp hs with rfl | hs
      · rw [octets_cons]; exact h1
      · exact h2 s hs
    · next hlt =>
      obtain ⟨h1, h2⟩ := ih (cnt + w c) (Nat.lt_of_not_le hlt)
      exact ⟨by rw [octets_cons, ← Nat.add_assoc]; exact h1, h2⟩

theorem segsUni_all_width (limit : Nat) (hl : 5 ≤ limit) (l : Str) :
    ∀ s ∈ (segsUni limit 0 l).1 :: (segsUni limit 0 l).2, octets s ≤ limit - 1 := by
  obtain ⟨h1, h2⟩ := segsUni_width limit hl l 0 (by omega)
  intro s hs
  rcases List.mem_cons.mp hs with rfl | hs
  · exact Nat.le_sub_one_of_lt (by rwa [Nat.zero_add] at h1)
  · exact Nat.le_sub_one_of_lt (h2 s hs)
theorem chunks_flatten (n : Nat) (l : Str) (hn : n ≠ 0) : (chunks n l).flatten = l := by
  induction l using chunks.induct n with
  | case1 l h =>
    rw [chunks]; simp only [h, dite_true, List.flatten_nil]
    rcases h with h | h
    · exact absurd h hn
    · exact h.symm
  | case2 l h ih =>
    rw [chunks]; simp only [h, dite_false, List.flatten_cons, ih, List.take_append_drop]

theorem chunks_len (n : Nat) (l : Str) : ∀ s ∈ chunks n l, s.length ≤ n := by
  induction l using chunks.induct n with
  | case1 l h => rw [chunks]; simp [h]
  | case2 l h ih =>
    rw [chunks]; simp only [h, dite_false, List.mem_cons]
    intro s hs
    rcases hs with rfl | hs
    · simp [List.length_take]; omega
    · exact ih s hs

theorem octets_ascii (l : Str) (h : isAscii l = true) : octets l = l.length := by
  induction l with
  | nil => simp [octets]
  | cons c cs ih =>
    simp only [isAscii, List.all_cons, Bool.and_eq_true, decide_eq_true_eq] at h
    have hc : w c = 1 := by
      unfold w Char.utf8Size
      have e : c.val.toNat = c.toNat := rfl
      have h2 : c.val ≤ 127 := by
        rw [UInt32.le_iff_toNat_le]
        have : c.toNat ≤ 127 := by omega
        simpa [e] using this
      simp [h2]
    have := ih (by simpa [isAscii] using h.2)
    rw [octets_cons, hc, this]; simp; omega

theorem isAscii_of_mem_flatten (segs : List Str) (h : isAscii segs.flatten = true) :
    ∀ s ∈ segs, isAscii s = true := by
  intro s hs
  simp only [isAscii, List.all_eq_true, decide_eq_true_eq] at h ⊢
  intro c hc
  exact h c (List.mem_flatten.mpr ⟨s, hs, hc⟩)

/-- both paths of `foldline` cut the line into segments of at most `limit - 1` octets and join them
    with the separator; no fold stands before the first character -/
theorem foldlineWith_segs (limit : Nat) (hl : 5 ≤ limit) (sep l : Str) :
    ∃ segs, foldlineWith limit sep l = joinSegs sep segs ∧ segs.flatten = l ∧
      (∀ s ∈ segs, octets s ≤ limit - 1) ∧ (l ≠ [] → ∃ s0 rest, segs = s0 :: rest ∧ s0 ≠ []) := by
  unfold foldlineWith
  split
  · next hasc =>
    have hn : limit - Gen.foldSliceMinus ≠ 0 := by simp [Gen.foldSliceMinus]; omega
    refine ⟨chunks (limit - Gen.foldSliceMinus) l, rfl, chunks_flatten _ _ hn, ?_, fun hne => ?_⟩
    · intro s hs
      have hlen := chunks_len _ _ s hs
      have hsa : isAscii s = true := by
        apply isAscii_of_mem_flatten (chunks (limit - Gen.foldSliceMinus) l) _ s hs
        rw [chunks_flatten _ _ hn]; exact hasc
      rw [octets_ascii s hsa]
      simp [Gen.foldSliceMinus] at hlen ⊢; exact hlen
    · rw [chunks, dif_neg (fun h => h.elim hn hne)]
      exact ⟨_, _, rfl, fun e => hne (List.take_eq_nil_iff.mp e |>.resolve_left hn)⟩
  · refine ⟨_, foldUni_eq_join _ _ _ _, segsUni_flatten _ _ _, segsUni_all_width limit hl l, fun hne => ?_⟩
    cases l with
    | nil => exact absurd rfl hne
    | cons c cs =>
      have hw : w c ≤ 4 := Char.utf8Size_le_four c
      rw [segsUni, if_neg (by omega)]
      exact ⟨_, _, rfl, List.cons_ne_nil _ _⟩

end ICal
