/-
  Lemmas for content lines (C05): the placeholder pass escape_string / unescape_string,
  the scanning loop of Contentline.parts, from_parts.
-/
import ICal.Model.Line
import ICal.Lemmas.Params
namespace ICal

section bridge

/-- the four placeholder codes written by `escape_string` and read by `unescape_string` -/
def percentCodes : List Str := [['%', '2', 'C'], ['%', '3', 'A'], ['%', '3', 'B'], ['%', '5', 'C']]

/-- the second character of a pattern of `escape_string` -/
def special (c : Char) : Bool := c == ',' || c == ':' || c == ';' || c == BS

theorem escapeString_eq (s : Str) :
    escapeString s = rep2 BS BS ['%', '5', 'C'] (rep2 BS ';' ['%', '3', 'B']
      (rep2 BS ':' ['%', '3', 'A'] (rep2 BS ',' ['%', '2', 'C'] s))) := by
  simp only [escapeString, applyChain, Gen.escapeStringChain, List.foldl_cons, List.foldl_nil,
    replaceAll_two, BS]

/-- `escape_string` is four passes `rep2 BS b r`, `b` one of `,` `:` `;` `\` and `r` its placeholder
    code: what holds of the identity and is kept by each such pass holds of `escape_string` -/
theorem escapeString_ind (Q : (Str → Str) → Prop) (h0 : Q id)
    (hstep : ∀ b r g, special b = true → r ∈ percentCodes → Q g → Q (fun s => rep2 BS b r (g s))) :
    Q escapeString := by
  have e : escapeString = fun s => rep2 BS BS ['%', '5', 'C'] (rep2 BS ';' ['%', '3', 'B']
      (rep2 BS ':' ['%', '3', 'A'] (rep2 BS ',' ['%', '2', 'C'] (id s)))) := funext escapeString_eq
  rw [e]
  exact hstep _ _ _ (by decide) (by decide) (hstep _ _ _ (by decide) (by decide)
    (hstep _ _ _ (by decide) (by decide) (hstep _ _ _ (by decide) (by decide) h0)))

theorem unescapeChain_pats : Gen.unescapeStringChain.map Prod.fst = percentCodes := by decide

end bridge

section hazard

/-- no backslash of `s` is immediately followed by one of `,` `:` `;` `\` -/
def NoPlaceholderPair : Str → Bool
  | [] => true
  | [_] => true
  | c :: d :: cs => !(c == BS && special d) && NoPlaceholderPair (d :: cs)

/-- `s` holds none of the substrings `%2C` `%3A` `%3B` `%5C` -/
def NoPercentCode (s : Str) : Bool := percentCodes.all (fun p => !occurs p s)

/-- neither pass of `parts()` changes `s` -/
def Hazardless (s : Str) : Prop := NoPlaceholderPair s = true ∧ NoPercentCode s = true

instance (s : Str) : Decidable (Hazardless s) := by unfold Hazardless; infer_instance

theorem npp_cons_cons (c d : Char) (cs : Str) :
    NoPlaceholderPair (c :: d :: cs) = (!(c == BS && special d) && NoPlaceholderPair (d :: cs)) := rfl

theorem npp_tail (c : Char) (cs : Str) (h : NoPlaceholderPair (c :: cs) = true) : NoPlaceholderPair cs = true := by
  cases cs with
  | nil => rfl
  | cons d ds => rw [npp_cons_cons] at h; simp only [Bool.and_eq_true] at h; exact h.2

theorem npc_of_noPercent (s : Str) (h : '%' ∉ s) : NoPercentCode s = true := by
  simp only [NoPercentCode, percentCodes, List.all_cons, List.all_nil, occurs_false_of_head _ _ s h]
  rfl

theorem unescapeString_id (s : Str) (h : NoPercentCode s = true) : unescapeString s = s := by
  unfold unescapeString
  apply applyChain_id
  intro pr hpr
  have hm : pr.1 ∈ percentCodes := by
    rw [← unescapeChain_pats]; exact List.mem_map.mpr ⟨pr, hpr, rfl⟩
  unfold NoPercentCode at h
  rw [List.all_eq_true] at h
  simpa using h _ hm

theorem npp_iff_infix : ∀ (s : Str),
    NoPlaceholderPair s = true ↔ ∀ d, special d = true → ¬ [BS, d] <:+: s
  | [] => by simp [NoPlaceholderPair]
  | [c] => by simp [NoPlaceholderPair, List.infix_cons_iff]
  | c :: e :: es => by
    rw [npp_cons_cons, Bool.and_eq_true, npp_iff_infix (e :: es)]
    simp only [List.infix_cons_iff (a := c), List.cons_prefix_cons, List.nil_prefix, and_true, not_or, not_and,
      Bool.not_eq_true', Bool.and_eq_false_iff, beq_eq_false_iff_ne]
    constructor
    · rintro ⟨h1, h2⟩ d hd
      refine ⟨fun hc he => ?_, h2 d hd⟩
      subst hc he
      rcases h1 with h | h
      · exact h rfl
      · rw [hd] at h; cases h
    · intro h
      refine ⟨?_, fun d hd => (h d hd).2⟩
      by_cases hs : special e = true
      · exact Or.inl (fun hc => (h e hs).1 hc.symm rfl)
      · exact Or.inr (by simpa using hs)

theorem npp_of_noBS (s : Str) (h : BS ∉ s) : NoPlaceholderPair s = true :=
  (npp_iff_infix s).mpr (fun _ _ hin => h (hin.subset (by simp)))

theorem escapeString_id (s : Str) (h : NoPlaceholderPair s = true) : escapeString s = s := by
  apply applyChain_id
  intro pr hpr
  have e : Gen.escapeStringChain.map Prod.fst = [[BS, ','], [BS, ':'], [BS, ';'], [BS, BS]] := by decide
  have hm : pr.1 ∈ [[BS, ','], [BS, ':'], [BS, ';'], [BS, BS]] := e ▸ List.mem_map.mpr ⟨pr, hpr, rfl⟩
  simp only [List.mem_cons, List.not_mem_nil, or_false] at hm
  rcases hm with e | e | e | e <;>
    (rw [e, ← Bool.not_eq_true, occurs_iff_infix _ (by simp)]; exact (npp_iff_infix s).mp h _ (by decide))

theorem noPlaceholderPair_iff (s : Str) : NoPlaceholderPair s = true ↔
    ∀ d, (d = ',' ∨ d = ':' ∨ d = ';' ∨ d = '\\') → ¬ ['\\', d] <:+: s := by
  have hsp : ∀ d, special d = true ↔ (d = ',' ∨ d = ':' ∨ d = ';' ∨ d = '\\') := fun d => by
    simp only [special, Bool.or_eq_true, beq_iff_eq, BS, or_assoc]
  rw [npp_iff_infix]
  simp only [hsp]
  rfl

theorem noPercentCode_iff (s : Str) : NoPercentCode s = true ↔
    ¬ ['%', '2', 'C'] <:+: s ∧ ¬ ['%', '3', 'A'] <:+: s ∧ ¬ ['%', '3', 'B'] <:+: s ∧ ¬ ['%', '5', 'C'] <:+: s := by
  simp only [NoPercentCode, percentCodes, List.all_cons, List.all_nil, Bool.and_true, Bool.and_eq_true,
    Bool.not_eq_true', ← Bool.not_eq_true, occurs_iff_infix _ (List.cons_ne_nil _ _)]

end hazard

section noBSEnd

def NoBSEnd (s : Str) : Prop := s.getLast? ≠ some BS

instance (s : Str) : Decidable (NoBSEnd s) := by unfold NoBSEnd; infer_instance

theorem noBSEnd_nil : NoBSEnd [] := by simp [NoBSEnd]

theorem noBSEnd_append {a b : Str} (ha : NoBSEnd a) (hb : NoBSEnd b) : NoBSEnd (a ++ b) := by
  unfold NoBSEnd at *
  rw [List.getLast?_append]
  cases h : b.getLast? with
  | none => simpa using ha
  | some c => rw [h] at hb; simpa using hb

theorem noBSEnd_append_right (a : Str) {b : Str} (hne : b ≠ []) (hb : NoBSEnd b) : NoBSEnd (a ++ b) := by
  unfold NoBSEnd at *
  rw [List.getLast?_append]
  cases h : b.getLast? with
  | none => rw [List.getLast?_eq_none_iff] at h; exact absurd h hne
  | some c => rw [h] at hb; simpa using hb

theorem noBSEnd_tail {c : Char} {cs : Str} (hne : cs ≠ []) (h : NoBSEnd (c :: cs)) : NoBSEnd cs := by
  unfold NoBSEnd at *
  cases cs with
  | nil => exact absurd rfl hne
  | cons d ds => rwa [List.getLast?_cons_cons] at h

theorem noBSEnd_of_not_mem (s : Str) (h : BS ∉ s) : NoBSEnd s := by
  unfold NoBSEnd
  intro e
  exact h (List.mem_of_getLast? e)

/-- the replacement text `%XX` does not end in a backslash, so neither does the result -/
theorem rep2_noBSEnd (b : Char) (r : Str) (hr : r ≠ []) (hre : NoBSEnd r) : ∀ (s : Str), NoBSEnd s →
    NoBSEnd (rep2 BS b r s) := by
  intro s
  induction s using rep2.induct BS b with
  | case1 => intro h; exact h
  | case2 c => intro h; exact h
  | case3 c d cs hm ih =>
    intro h
    simp only [rep2, hm, and_self, if_true]
    cases cs with
    | nil => simpa [rep2] using hre
    | cons e es =>
      exact noBSEnd_append_right _ (rep2_ne_nil _ _ _ hr _ (by simp)) (ih (by
        unfold NoBSEnd at *; simpa [List.getLast?_cons_cons] using h))
  | case4 c d cs hm ih =>
    intro h
    simp only [rep2, hm, if_false]
    have h' : NoBSEnd (d :: cs) := noBSEnd_tail (by simp) h
    have := ih h'
    have hne : rep2 BS b r (d :: cs) ≠ [] := rep2_ne_nil _ _ _ hr _ (by simp)
    exact noBSEnd_append_right [c] hne this

/-- `escape_string` works on a piece that does not end in a backslash independently of the rest, and
    the piece still does not end in one: the replacement texts `%XX` do not -/
theorem escapeString_append_noBSEnd (s : Str) (h : NoBSEnd s) :
    NoBSEnd (escapeString s) ∧ ∀ t, escapeString (s ++ t) = escapeString s ++ escapeString t := by
  have hr : ∀ r ∈ percentCodes, r ≠ [] ∧ NoBSEnd r := by decide
  exact escapeString_ind (fun g => ∀ s, NoBSEnd s → NoBSEnd (g s) ∧ ∀ t, g (s ++ t) = g s ++ g t)
    (fun _ h => ⟨h, fun _ => rfl⟩)
    (fun b r g _ hm hg s h =>
      ⟨rep2_noBSEnd b r (hr r hm).1 (hr r hm).2 _ (hg s h).1, fun t => by
        show rep2 BS b r (g (s ++ t)) = rep2 BS b r (g s) ++ rep2 BS b r (g t)
        rw [(hg s h).2 t]; exact rep2_append BS b r (g t) (g s) (hg s h).1⟩) s h

theorem escapeString_noBSEnd (s : Str) (h : NoBSEnd s) : NoBSEnd (escapeString s) :=
  (escapeString_append_noBSEnd s h).1

theorem escapeString_append (s t : Str) (h : NoBSEnd s) :
    escapeString (s ++ t) = escapeString s ++ escapeString t :=
  (escapeString_append_noBSEnd s h).2 t

theorem escapeString_single (c : Char) : escapeString [c] = [c] := by
  simp [escapeString_eq, rep2]

theorem escapeString_nil : escapeString [] = [] := by
  simp [escapeString_eq, rep2]

theorem escapeString_cons (c : Char) (hc : c ≠ BS) (t : Str) : escapeString (c :: t) = c :: escapeString t := by
  have := escapeString_append [c] t (by simpa [NoBSEnd] using hc)
  rw [escapeString_single] at this
  simpa using this

theorem escapeString_prefix (s t : Str) (h : NoPlaceholderPair s = true) (he : NoBSEnd s) :
    escapeString (s ++ t) = s ++ escapeString t := by
  rw [escapeString_append s t he, escapeString_id s h]

end noBSEnd

section scan

theorem falsy_none : falsy none = true := rfl

theorem falsy_pos {a : Nat} (h : 0 < a) : falsy (some a) = false := by
  cases a with
  | zero => omega
  | succ k => rfl

theorem scanParts_done : ∀ (s : Str) (i : Nat) (q : Bool) (a b : Nat), 0 < a → 0 < b →
    scanParts s i q (some a) (some b) = (some a, some b) := by
  intro s
  induction s with
  | nil => intros; rfl
  | cons c cs ih =>
    intro i q a b ha hb
    simp only [scanParts, falsy_pos ha, falsy_pos hb, Bool.and_false, Bool.false_eq_true, if_false]
    exact ih _ _ a b ha hb

theorem scanParts_skip (t : Str) (ns : Option Nat) : ∀ (s : Str) (i : Nat) (q q' : Bool),
    scanQ ':' q s = some q' → (falsy ns = true → scanQ ';' q s = some q') →
    scanParts (s ++ t) i q ns none = scanParts t (i + s.length) q' ns none := by
  intro s
  induction s with
  | nil => intro i q q' h _; cases h; rfl
  | cons c cs ih =>
    intro i q q' h1 h2
    rw [scanQ, not_nextQ_and q c ':' (by decide)] at h1
    have h2' : falsy ns = true → (!q && c == ';') = false ∧ scanQ ';' (nextQ q c) cs = some q' := by
      intro hf
      have := h2 hf
      rw [scanQ, not_nextQ_and q c ';' (by decide)] at this
      split at this
      · cases this
      · next hs => exact ⟨by simpa using hs, this⟩
    split at h1
    · cases h1
    · next hv =>
      have hv' : (!q && c == ':') = false := by simpa using hv
      have hn : (!q && (c == ':' || c == ';') && falsy ns) = false := by
        cases hf : falsy ns
        · simp
        · rw [Bool.and_or_distrib_left, hv', (h2' hf).1]; rfl
      have hq : (if c == DQ then !q else q) = nextQ q c := by simp [nextQ]
      simp only [List.cons_append, scanParts, hn, hv', hq, Bool.false_and, Bool.false_eq_true, if_false]
      rw [ih (i + 1) _ q' h1 (fun hf => (h2' hf).2)]
      simp only [List.length_cons]
      congr 1
      omega

theorem scanParts_plain (t : Str) : ∀ (n : Str) (i : Nat), (∀ c ∈ n, c ≠ ':' ∧ c ≠ ';' ∧ c ≠ DQ) →
    scanParts (n ++ t) i false none none = scanParts t (i + n.length) false none none :=
  fun n i h => scanParts_skip t none n i false false
    (scanQ_noDQ ':' n false (fun hm => (h _ hm).2.2 rfl) (fun _ hm => (h _ hm).1 rfl))
    (fun _ => scanQ_noDQ ';' n false (fun hm => (h _ hm).2.2 rfl) (fun _ hm => (h _ hm).2.1 rfl))

theorem scanParts_token (t n : Str) (hn : validToken n = true) :
    scanParts (n ++ t) 0 false none none = scanParts t n.length false none none := by
  have := scanParts_skip t none n 0 false false
    (scanQ_noDQ ':' n false (validToken_noDQ n hn) (fun _ => token_noColon n hn))
    (fun _ => scanQ_noDQ ';' n false (validToken_noDQ n hn) (fun _ => validToken_noSep n hn))
  rwa [Nat.zero_add] at this

theorem scanParts_name_colon (n w : Str) (hn : validToken n = true) :
    scanParts (n ++ ':' :: w) 0 false none none = (some n.length, some n.length) := by
  have hpos : 0 < n.length := List.length_pos_iff.mpr (validToken_chars n hn).1
  rw [scanParts_token _ n hn]
  simp only [scanParts]
  simp only [falsy_none, beq_self_eq_true, Bool.not_false, Bool.true_and, Bool.and_self, if_true]
  exact scanParts_done _ _ _ _ _ hpos hpos

theorem scanParts_name_params (n ptext w : Str) (hn : validToken n = true) (hb : Balanced ':' ptext) :
    scanParts (n ++ ';' :: ptext ++ ':' :: w) 0 false none none =
      (some n.length, some (n.length + 1 + ptext.length)) := by
  have hpos : 0 < n.length := List.length_pos_iff.mpr (validToken_chars n hn).1
  have e : n ++ ';' :: ptext ++ ':' :: w = n ++ (';' :: (ptext ++ ':' :: w)) := by simp
  rw [e, scanParts_token _ n hn]
  simp only [scanParts]
  have e1 : ((';' : Char) == ':') = false := by decide
  have e2 : ((';' : Char) == DQ) = false := by decide
  simp only [falsy_none, e1, e2, beq_self_eq_true, Bool.not_false, Bool.or_true, Bool.and_self,
    if_true, Bool.false_and, Bool.and_false, Bool.false_eq_true, if_false]
  rw [scanParts_skip _ _ ptext _ false false hb (fun hf => by rw [falsy_pos hpos] at hf; cases hf)]
  have e3 : ((':' : Char) == DQ) = false := by decide
  simp only [scanParts, falsy_pos hpos, falsy_none, e3, beq_self_eq_true, Bool.not_false, Bool.true_and,
    Bool.and_self, if_true, Bool.and_false, Bool.false_eq_true, if_false]
  exact scanParts_done _ _ _ _ _ hpos (by omega)

end scan

section partsOfShape

/-- the re-keying loop at the end of `parts()` -/
def rekey (ps : Params) : Params :=
  ps.foldl (fun acc kv => Params.put acc (upper (unescapeString kv.1)) (unescapePVal kv.2)) []

theorem unescapeString_token (n : Str) (hn : validToken n = true) : unescapeString n = n :=
  unescapeString_id n (npc_of_noPercent n (token_noPercent n hn))

theorem paramsFromIcal_nil : paramsFromIcal [] false = some [] := by decide

theorem parts_name_colon (line n w : Str) (hn : validToken n = true)
    (hst : escapeString line = n ++ ':' :: w) :
    parts line = some (n, [], unescapeString w) := by
  have hne : n ≠ [] := (validToken_chars n hn).1
  have hie : n.isEmpty = false := by cases n <;> simp_all
  have hk : (n.length + 1 == n.length) = false := by simp
  unfold parts
  simp only [hst, scanParts_name_colon n w hn, List.take_left', unescapeString_token n hn, hie, hn,
    falsy_pos (List.length_pos_iff.mpr hne), Option.getD_some, hk, Bool.false_eq_true, if_false,
    Bool.not_true, Bool.or_self]
  have e0 : n.length - (n.length + 1) = 0 := by omega
  have e1 : List.drop (n.length + 1) (n ++ ':' :: w) = w := by
    rw [List.drop_append]; simp
  rw [e0, List.take_zero, paramsFromIcal_nil, e1]
  rfl

theorem parts_name_params (line n ptext w : Str) (hn : validToken n = true)
    (hb : Balanced ':' ptext) (hpne : ptext ≠ [])
    (hst : escapeString line = n ++ ';' :: ptext ++ ':' :: w) :
    parts line = (paramsFromIcal ptext false).map (fun ps => (n, rekey ps, unescapeString w)) := by
  have hne : n ≠ [] := (validToken_chars n hn).1
  have hie : n.isEmpty = false := by cases n <;> simp_all
  have hpl : 0 < ptext.length := List.length_pos_iff.mpr hpne
  have hk : (n.length + 1 == n.length + 1 + ptext.length) = false := by
    simp only [beq_eq_false_iff_ne]; omega
  have hst' : escapeString line = n ++ (';' :: ptext ++ ':' :: w) := by rw [hst]; simp
  have hsc := scanParts_name_params n ptext w hn hb
  rw [hst.symm.trans hst'] at hsc
  unfold parts
  simp only [hst', hsc, List.take_left', unescapeString_token n hn, hie, hn,
    falsy_pos (List.length_pos_iff.mpr hne), falsy_pos (show 0 < n.length + 1 + ptext.length by omega),
    Option.getD_some, hk, Bool.false_eq_true, if_false, Bool.not_true, Bool.or_self]
  have e0 : n.length + 1 + ptext.length - (n.length + 1) = ptext.length := by omega
  have e1 : List.drop (n.length + 1) (n ++ (';' :: ptext ++ ':' :: w)) = ptext ++ ':' :: w := by
    rw [List.drop_append]; simp
  have e2 : List.drop (n.length + 1 + ptext.length + 1) (n ++ (';' :: ptext ++ ':' :: w)) = w := by
    have : n.length + 1 + ptext.length + 1 = (n.length + 1) + (ptext.length + 1) := by omega
    rw [this, ← List.drop_drop, e1, List.drop_append]; simp
  rw [e0, e1, e2, List.take_left' rfl]
  cases paramsFromIcal ptext false <;> rfl

end partsOfShape

section safe

theorem npp_single_cons (c : Char) (hc : c ≠ BS) (b : Str) (hb : NoPlaceholderPair b = true) :
    NoPlaceholderPair (c :: b) = true := by
  cases b with
  | nil => rfl
  | cons d ds => rw [npp_cons_cons, hb]; simp [hc]

theorem npp_append : ∀ (a b : Str), NoPlaceholderPair a = true → NoBSEnd a → NoPlaceholderPair b = true →
    NoPlaceholderPair (a ++ b) = true := by
  intro a
  induction a with
  | nil => intro b _ _ hb; exact hb
  | cons e es ih =>
    intro b h he hb
    cases es with
    | nil =>
      have : e ≠ BS := by simpa [NoBSEnd] using he
      exact npp_single_cons e this b hb
    | cons f fs =>
      rw [npp_cons_cons] at h
      simp only [Bool.and_eq_true] at h
      have := ih b h.2 (noBSEnd_tail (by simp) he) hb
      simp only [List.cons_append] at this ⊢
      rw [npp_cons_cons, this, h.1]
      rfl

/-- hazard-free and not ending in a backslash: such text can be followed by anything -/
def Safe (s : Str) : Prop := NoPlaceholderPair s = true ∧ NoBSEnd s

instance (s : Str) : Decidable (Safe s) := by unfold Safe; infer_instance

theorem Safe.append {a b : Str} (ha : Safe a) (hb : Safe b) : Safe (a ++ b) :=
  ⟨npp_append a b ha.1 ha.2 hb.1, noBSEnd_append ha.2 hb.2⟩

theorem safe_of_noBS (s : Str) (h : BS ∉ s) : Safe s := ⟨npp_of_noBS s h, noBSEnd_of_not_mem s h⟩

theorem noBS_of_noQuotable (x : Str) (h : ¬ x.any (inClass Gen.quotable) = true) : BS ∉ x :=
  fun hm => h (List.any_eq_true.mpr ⟨BS, hm, quotable_BS⟩)

/-- every string among the parameter values is left alone by both passes of `parts()` -/
def ParamsHazardless (p : Params) : Prop := ∀ kv ∈ p, ∀ x ∈ pvalStrs kv.2, Hazardless x

instance (p : Params) : Decidable (ParamsHazardless p) := by unfold ParamsHazardless; infer_instance

end safe

section rekey

theorem rekey_eq (ps : Params) (hn : (ps.map Prod.fst).Nodup)
    (hk : ∀ kv ∈ ps, validToken kv.1 = true ∧ upper kv.1 = kv.1) :
    rekey ps = ps.map (fun kv => (kv.1, unescapePVal kv.2)) := by
  have hkey : ∀ kv ∈ ps, upper (unescapeString kv.1) = kv.1 := fun kv hkv => by
    rw [unescapeString_token _ (hk kv hkv).1, (hk kv hkv).2]
  unfold rekey
  rw [foldl_put_fresh (fun kv => upper (unescapeString kv.1)) (fun kv => unescapePVal kv.2) ps []
    (by rw [List.map_congr_left hkey]; exact hn) (by simp), List.nil_append]
  exact List.map_congr_left (fun kv hkv => by rw [hkey kv hkv])

end rekey

section fromParts

/-- the text `from_parts` builds before the line-feed check -/
def lineText (n : Str) (p : Params) (v : Str) (sorted : Bool) : Str :=
  if p.isEmpty then n ++ [':'] ++ v else n ++ [';'] ++ paramsToIcal p sorted ++ [':'] ++ v

theorem fromParts_eq (n : Str) (p : Params) (v : Str) (sorted : Bool) :
    fromParts n p v sorted = mkLine (lineText n p v sorted) := by
  unfold fromParts lineText
  split <;> rfl

theorem mkLine_ok (s : Str) (h : LF ∉ s) : mkLine s = .ok s := by
  unfold mkLine
  rw [if_neg]
  simpa using h

theorem mkLine_inv (s l : Str) (h : mkLine s = .ok l) : l = s := by
  unfold mkLine at h
  split at h
  · cases h
  · injection h with h; exact h.symm

theorem mkLine_lf (s : Str) (h : LF ∈ s) : mkLine s = .error .assertion := by
  unfold mkLine
  rw [if_pos]
  simpa using h

/-- an `Except` result read off its `toOption`: equality of `Str` is decidable, that of results is not declared -/
theorem eq_ok_of_toOption {ε α : Type} {x : Except ε α} {a : α} (h : x.toOption = some a) : x = .ok a := by
  cases x with
  | error e => cases h
  | ok b => exact congrArg Except.ok (Option.some.inj h)

theorem lineText_noLF (n : Str) (p : Params) (v : Str) (sorted : Bool) (hn : validToken n = true)
    (hd : ParamDomain p) (hv : LF ∉ v) : LF ∉ lineText n p v sorted := by
  have h1 := token_noLF n hn
  have h2 := paramsToIcal_noLF p hd sorted
  have h3 : LF ≠ ':' := by decide
  have h4 : LF ≠ ';' := by decide
  unfold lineText
  split <;> simp [h1, h2, h3, h4, hv]

theorem fromParts_ok (n : Str) (p : Params) (v : Str) (sorted : Bool) (hn : validToken n = true)
    (hd : ParamDomain p) (hv : LF ∉ v) : fromParts n p v sorted = .ok (lineText n p v sorted) := by
  rw [fromParts_eq]
  exact mkLine_ok _ (lineText_noLF n p v sorted hn hd hv)

end fromParts

/-! ## the placeholder pass on parameter text with arbitrary values

  For parameter values that hold backslashes or `%XX` the pass does change the serialised text,
  but only inside the values: it never adds or removes a double quote, never adds a delimiter,
  and every value holding a backslash sits inside double quotes. -/
section escaped

def codeChars : Str := ['%', '2', 'C', '3', 'A', 'B', '5']

theorem mem_escapeString (c : Char) (s : Str) (h : c ∈ escapeString s) : c ∈ codeChars ∨ c ∈ s := by
  have hr : ∀ r ∈ percentCodes, ∀ c ∈ r, c ∈ codeChars := by decide
  exact escapeString_ind (fun g => ∀ s, c ∈ g s → c ∈ codeChars ∨ c ∈ s) (fun _ h => Or.inr h)
    (fun b r g _ hm hg s h => (mem_rep2 BS b r c _ h).elim (fun h' => Or.inl (hr r hm c h')) (hg s)) s h

theorem escapeString_valueOk (x : Str) (h : ValueOk x) : ValueOk (escapeString x) := by
  refine ⟨?_, ?_⟩
  · intro hm
    rcases mem_escapeString DQ x hm with e | e
    · revert e; decide
    · exact h.1 e
  · intro c hc
    rcases mem_escapeString c x hc with e | e
    · have hcc : ∀ d ∈ codeChars, inClass Gen.qunsafeChar d = false := by decide
      exact hcc c e
    · exact h.2 c e

theorem scanQ_rep2 (sep b : Char) (r : Str) (hsep : sep ≠ BS) (hb : b ≠ DQ) (hr1 : DQ ∉ r) (hr2 : sep ∉ r) :
    ∀ (s : Str) (q q' : Bool), scanQ sep q s = some q' → scanQ sep q (rep2 BS b r s) = some q' := by
  intro s
  induction s using rep2.induct BS b with
  | case1 => intro q q' h; exact h
  | case2 e => intro q q' h; exact h
  | case3 e d cs hm ih =>
    intro q q' h
    obtain ⟨rfl, rfl⟩ := hm
    have n1 : nextQ q BS = q := by simp [nextQ, BS, DQ]
    have n2 : nextQ q d = q := by simp [nextQ, hb]
    have e1 : (BS == sep) = false := by simpa using Ne.symm hsep
    simp only [scanQ, n1, n2, e1, Bool.and_false, Bool.false_eq_true, if_false] at h
    simp only [rep2, and_self, if_true]
    rw [scanQ_append, scanQ_noDQ sep r q hr1 (fun _ => hr2)]
    split at h
    · cases h
    · exact ih q q' h
  | case4 e d cs hm ih =>
    intro q q' h
    simp only [rep2, hm, if_false]
    simp only [scanQ] at h ⊢
    split
    · next hc => simp [hc] at h
    · next hc => simp only [hc] at h; exact ih _ q' h

theorem balanced_escapeString (sep : Char) (hs : sep = ',' ∨ sep = ';' ∨ sep = ':') (s : Str)
    (h : Balanced sep s) : Balanced sep (escapeString s) := by
  have h0 : sep ≠ BS := by rcases hs with e | e | e <;> (rw [e]; decide)
  have hr : ∀ r ∈ percentCodes, DQ ∉ r ∧ sep ∉ r := by
    rcases hs with e | e | e <;> (rw [e]; decide)
  have hb : ∀ b, special b = true → b ≠ DQ := by rintro _ hb rfl; revert hb; decide
  exact escapeString_ind (fun g => ∀ s q q', scanQ sep q s = some q' → scanQ sep q (g s) = some q')
    (fun _ _ _ h => h)
    (fun b r g hsb hm hg s q q' h => scanQ_rep2 sep b r h0 (hb b hsb) (hr r hm).1 (hr r hm).2 _ q q' (hg s q q' h))
    s false false h

theorem escapeString_neutral (c : Char) (hc : special c = false) (s t : Str) :
    escapeString (s ++ c :: t) = escapeString s ++ c :: escapeString t := by
  have h1 : c ≠ BS := by rintro rfl; revert hc; decide
  exact escapeString_ind (fun g => ∀ s t, g (s ++ c :: t) = g s ++ c :: g t) (fun _ _ => rfl)
    (fun b r g hb _ hg s t => by
      show rep2 BS b r (g (s ++ c :: t)) = rep2 BS b r (g s) ++ c :: rep2 BS b r (g t)
      rw [hg s t]
      exact rep2_append_neutral BS b r c h1 (by rintro rfl; rw [hb] at hc; cases hc) (g t) (g s)) s t

/-- what `parts()` makes of a string: placeholder pass, then the reverse pass -/
def viaPlaceholders (x : Str) : Str := unescapeString (escapeString x)

/-- the text of one value string after the placeholder pass -/
def escVal (x : Str) : Str := if x.any (inClass Gen.quotable) then DQ :: escapeString x ++ [DQ] else x

theorem escapeString_joinWith {α : Type} (c : Char) (hc : c ≠ BS) (f g : α → Str) : ∀ (l : List α),
    (∀ x ∈ l, NoBSEnd (f x) ∧ escapeString (f x) = g x) →
    escapeString (joinWith [c] (l.map f)) = joinWith [c] (l.map g) := by
  intro l
  induction l with
  | nil => intro _; exact escapeString_nil
  | cons x r ih =>
    intro h
    have hx := h x List.mem_cons_self
    cases r with
    | nil => exact hx.2
    | cons y r' =>
      have ih' := ih (fun z hz => h z (List.mem_cons_of_mem _ hz))
      simp only [List.map_cons, joinWith, List.append_assoc, List.singleton_append] at ih' ⊢
      rw [escapeString_append _ _ hx.1, escapeString_cons c hc, hx.2, ih']

theorem escapeString_dquote (x : Str) (hx : DQ ∉ x) : escapeString (dquote x) = escVal x := by
  rw [dquote_of_noDQ x hx]
  unfold escVal
  split
  · have : DQ :: x ++ [DQ] = DQ :: (x ++ DQ :: []) := by simp
    rw [this, escapeString_cons DQ (by decide), escapeString_neutral DQ (by decide), escapeString_nil]
    simp
  · next hq => exact escapeString_id x (npp_of_noBS x (noBS_of_noQuotable x hq))

theorem dquote_noBSEnd (x : Str) (hx : DQ ∉ x) : NoBSEnd (dquote x) := by
  rw [dquote_of_noDQ x hx]
  split
  · have : DQ :: x ++ [DQ] = (DQ :: x) ++ [DQ] := by simp
    rw [this]
    exact noBSEnd_append_right _ (by simp) (by decide)
  · next hq => exact noBSEnd_of_not_mem x (noBS_of_noQuotable x hq)

theorem paramValue_noBSEnd (v : PVal) (hv : PValOk v) : NoBSEnd (paramValue v) :=
  paramValue_ind NoBSEnd noBSEnd_nil (fun _ _ => noBSEnd_append) (by decide) v
    (fun x hx => dquote_noBSEnd x (pvalOk_strs v hv x hx).1)

theorem escapeString_paramValue (v : PVal) (hv : PValOk v) : escapeString (paramValue v) = pvalText escVal v := by
  cases v with
  | one x => exact escapeString_dquote x hv.1
  | many xs =>
    exact escapeString_joinWith ',' (by decide) dquote escVal xs
      (fun x hx => ⟨dquote_noBSEnd x (hv.2 x hx).1, escapeString_dquote x (hv.2 x hx).1⟩)

theorem itemText_noBSEnd (kv : Str × PVal) (hk : validToken kv.1 = true) (hu : upper kv.1 = kv.1)
    (hv : PValOk kv.2) : NoBSEnd (itemText kv) := by
  unfold itemText
  rw [hu]
  exact noBSEnd_append (noBSEnd_append (noBSEnd_of_not_mem _ (token_noBS _ hk)) (by decide))
    (paramValue_noBSEnd kv.2 hv)

theorem escapeString_itemText (kv : Str × PVal) (hk : validToken kv.1 = true) (hu : upper kv.1 = kv.1)
    (hv : PValOk kv.2) : escapeString (itemText kv) = itemTextWith escVal kv := by
  unfold itemText itemTextWith
  have : upper kv.1 ++ ['='] ++ paramValue kv.2 = kv.1 ++ '=' :: paramValue kv.2 := by rw [hu]; simp
  rw [this, escapeString_neutral '=' (by decide), escapeString_paramValue kv.2 hv,
    escapeString_id kv.1 (npp_of_noBS _ (token_noBS _ hk))]

theorem paramsToIcal_noBSEnd (p : Params) (hd : ParamDomain p) (sorted : Bool) :
    NoBSEnd (paramsToIcal p sorted) :=
  paramsText_ind_domain NoBSEnd noBSEnd_nil (fun _ _ => noBSEnd_append) (by decide) (by decide) (by decide)
    p hd sorted (fun k hk => noBSEnd_of_not_mem _ (token_noBS k hk)) (fun x hx => dquote_noBSEnd x hx.1)

/-- the placeholder pass works item by item, and inside an item only on the quoted values -/
theorem escapeString_items (s : Params) (hs : ParamDomain s) :
    escapeString (joinWith [';'] (s.map itemText)) = joinWith [';'] (s.map (itemTextWith escVal)) :=
  escapeString_joinWith ';' (by decide) itemText (itemTextWith escVal) s (fun kv hkv =>
    ⟨itemText_noBSEnd kv (hs.token hkv) (hs.upper_eq hkv) (hs.valOk hkv),
      escapeString_itemText kv (hs.token hkv) (hs.upper_eq hkv) (hs.valOk hkv)⟩)

theorem escVal_balanced (sep : Char) (hs : sep = ',' ∨ sep = ';' ∨ sep = ':') (x : Str) (hx : DQ ∉ x) :
    Balanced sep (escVal x) := by
  rw [← escapeString_dquote x hx]
  refine balanced_escapeString sep hs _ (dquote_balanced_any sep ?_ ?_ x)
  · rcases hs with e | e | e <;> (rw [e]; decide)
  · rcases hs with e | e | e <;> (rw [e]; decide)

theorem escVal_eq_nil (x : Str) (h : escVal x = []) : x = [] := by
  unfold escVal at h
  split at h
  · simp at h
  · exact h

theorem escapeString_noQuotable (x : Str) (hq : ¬ x.any (inClass Gen.quotable) = true) : escapeString x = x :=
  escapeString_id x (npp_of_noBS x (noBS_of_noQuotable x hq))

theorem parse_escVal (x : Str) (hx : ValueOk x) (rest : List Str) :
    parseParamVals false (escVal x :: rest) = (parseParamVals false rest).map (escapeString x :: ·) := by
  by_cases hq : x.any (inClass Gen.quotable) = true
  · have ev : escVal x = DQ :: escapeString x ++ [DQ] := by simp [escVal, hq]
    rw [ev]
    exact parse_quoted _ (escapeString_valueOk x hx) rest
  · have ev : escVal x = dquote x := by
      rw [dquote_of_noDQ x hx.1]; simp [escVal, hq]
    rw [ev, parse_dquote x hx, escapeString_noQuotable x hq]

theorem escVal_readsBack : ReadsBack escVal escapeString :=
  ⟨parse_escVal, fun x hx => escVal_balanced ',' (Or.inl rfl) x hx.1, escVal_eq_nil, escapeString_nil⟩

theorem canonVal_mapPVal (f : Str → Str) (v : PVal) : canonVal (mapPVal f v) = mapPVal f (canonVal v) := by
  cases v with
  | one x => rfl
  | many xs =>
    match xs with
    | [] => rfl
    | [x] => rfl
    | x :: y :: r => rfl

theorem unescapePVal_eq (v : PVal) : unescapePVal v = mapPVal unescapeString v := by
  cases v <;> rfl

theorem mapPVal_comp (f g : Str → Str) (v : PVal) : mapPVal f (mapPVal g v) = mapPVal (fun x => f (g x)) v := by
  cases v <;> simp [mapPVal]

theorem escItem_balanced (kv : Str × PVal) (hk : validToken kv.1 = true) (hu : upper kv.1 = kv.1)
    (hv : PValOk kv.2) : Balanced ';' (itemTextWith escVal kv) := by
  rw [← escapeString_itemText kv hk hu hv]
  exact balanced_escapeString ';' (Or.inr (Or.inl rfl)) _ (item_balanced kv hk hu)

theorem paramsFromIcal_escaped (s : Params) (hs : ParamDomain s) :
    paramsFromIcal (escapeString (joinWith [';'] (s.map itemText))) false =
      some (s.map (fun kv => (kv.1, canonVal (mapPVal escapeString kv.2)))) := by
  rw [escapeString_items s hs]
  exact paramsFromIcal_enc escVal_readsBack s hs
    (fun kv hkv => escItem_balanced kv (hs.token hkv) (hs.upper_eq hkv) (hs.valOk hkv))

theorem escapeString_ne_nil (s : Str) (h : s ≠ []) : escapeString s ≠ [] := by
  have hr : ∀ r ∈ percentCodes, r ≠ [] := by decide
  exact escapeString_ind (fun g => ∀ s, s ≠ [] → g s ≠ []) (fun _ h => h)
    (fun b r g _ hm hg s h => rep2_ne_nil BS b r (hr r hm) _ (hg s h)) s h

/-- what `parts()` returns for the parameters of a joined line: same names, same order, every value
    string sent through both placeholder passes -/
def readBack (p : Params) : Params := (canon p).map (fun kv => (kv.1, mapPVal viaPlaceholders kv.2))

theorem readBack_keys (p : Params) : (readBack p).map Prod.fst = (canon p).map Prod.fst := by
  simp [readBack, List.map_map, Function.comp_def]

theorem viaPlaceholders_id (x : Str) (h : Hazardless x) : viaPlaceholders x = x := by
  unfold viaPlaceholders
  rw [escapeString_id x h.1, unescapeString_id x h.2]

theorem readBack_eq (s : Params) :
    List.map (fun kv => (kv.1, unescapePVal kv.2))
      (s.map (fun kv => (kv.1, canonVal (mapPVal escapeString kv.2)))) =
      s.map (fun kv => (kv.1, mapPVal viaPlaceholders (canonVal kv.2))) := by
  rw [List.map_map]
  apply List.map_congr_left
  intro x _
  simp only [Function.comp, unescapePVal_eq, canonVal_mapPVal, mapPVal_comp]
  rfl

/-- the split of a joined line for every value text, every parameter map of the domain and either
    order of the parameters: what was joined, every value string through `viaPlaceholders` -/
theorem parts_lineText_anyValue_anyOrder (n : Str) (p : Params) (v : Str) (sorted : Bool) (hn : validToken n = true)
    (hd : ParamDomain p) :
    parts (lineText n p v sorted) = some (n, (if sorted then sortByKey p else p).map
      (fun kv => (kv.1, mapPVal viaPlaceholders (canonVal kv.2))), viaPlaceholders v) := by
  have hsn : Safe n := safe_of_noBS n (token_noBS n hn)
  cases p with
  | nil =>
    have hs : Safe (n ++ [':']) := hsn.append (by decide)
    have e : lineText n [] v sorted = n ++ [':'] ++ v := rfl
    rw [e]
    have := parts_name_colon (n ++ [':'] ++ v) n (escapeString v) hn (by
      rw [escapeString_prefix _ _ hs.1 hs.2]; simp)
    rw [this]
    cases sorted <;> rfl
  | cons kv r =>
    have hs : ParamDomain (if sorted then sortByKey (kv :: r) else kv :: r) :=
      paramDomain_perm (toIcalItems_perm _ sorted) hd
    have hP := paramsToIcal_noBSEnd (kv :: r) hd sorted
    have hs1 : Safe (n ++ [';']) := hsn.append (by decide)
    have e : lineText n (kv :: r) v sorted =
        (n ++ [';']) ++ (paramsToIcal (kv :: r) sorted ++ ([':'] ++ v)) := by
      simp [lineText]
    rw [e]
    have hst : escapeString ((n ++ [';']) ++ (paramsToIcal (kv :: r) sorted ++ ([':'] ++ v))) =
        n ++ ';' :: escapeString (paramsToIcal (kv :: r) sorted) ++ ':' :: escapeString v := by
      rw [escapeString_prefix _ _ hs1.1 hs1.2, escapeString_append _ _ hP,
        List.singleton_append, escapeString_cons ':' (by decide)]
      simp
    have := parts_name_params _ n (escapeString (paramsToIcal (kv :: r) sorted)) (escapeString v) hn
      (balanced_escapeString ':' (Or.inr (Or.inr rfl)) _ (paramsToIcal_balanced_colon _ sorted (fun _ hkv => hd.upper_token hkv)))
      (escapeString_ne_nil _ (paramsToIcal_ne_nil _ sorted (by simp))) hst
    rw [this]
    have et : paramsToIcal (kv :: r) sorted =
        joinWith [';'] ((if sorted then sortByKey (kv :: r) else kv :: r).map itemText) := rfl
    rw [et, paramsFromIcal_escaped _ hs, Option.map_some]
    rw [rekey_eq _ (by simpa [List.map_map, Function.comp_def] using hs.nodup) (by
      intro x hx
      obtain ⟨y, hy, rfl⟩ := List.mem_map.mp hx
      exact ⟨hs.token (kv := y) hy, hs.upper_eq (kv := y) hy⟩)]
    rw [readBack_eq]
    rfl

theorem parts_lineText_anyValue (n : Str) (p : Params) (v : Str) (hn : validToken n = true) (hd : ParamDomain p) :
    parts (lineText n p v true) = some (n, readBack p, viaPlaceholders v) := by
  rw [parts_lineText_anyValue_anyOrder n p v true hn hd]
  simp [readBack, canon, List.map_map, Function.comp_def]

theorem fromParts_inv {n : Str} {p : Params} {v : Str} {sorted : Bool} {l : Str}
    (h : fromParts n p v sorted = .ok l) : l = lineText n p v sorted :=
  mkLine_inv _ _ (fromParts_eq n p v sorted ▸ h)

theorem parts_of_fromParts (n : Str) (p : Params) (v : Str) (hn : validToken n = true) (hd : ParamDomain p)
    {l : Str} (hl : fromParts n p v = .ok l) : parts l = some (n, readBack p, viaPlaceholders v) := by
  rw [fromParts_inv hl]
  exact parts_lineText_anyValue n p v hn hd

theorem readBack_hazardless (p : Params) (hz : ParamsHazardless p) : readBack p = canon p := by
  unfold readBack canon
  rw [List.map_map]
  apply List.map_congr_left
  intro kv hkv
  have hm : kv ∈ p := (sortByKey_perm p).mem_iff.mp hkv
  simp only [Function.comp, ← canonVal_mapPVal,
    mapPVal_eq_self _ _ (fun x hx => viaPlaceholders_id x (hz kv hm x hx))]

theorem parts_lineText (n : Str) (p : Params) (v : Str) (hn : validToken n = true) (hd : ParamDomain p)
    (hz : ParamsHazardless p) :
    parts (lineText n p v true) = some (n, canon p, unescapeString (escapeString v)) := by
  rw [parts_lineText_anyValue n p v hn hd, readBack_hazardless p hz]
  rfl

end escaped

section raw

/-- `raw_value()`'s walk over a prefix of the line: `none` if it would return inside the prefix
    or skip a pair that straddles its end, otherwise the quote state after it -/
def rawScan : Bool → Str → Option Bool
  | q, [] => some q
  | q, [c] => if c == BS || (c == ':' && !q) then none else some (if c == DQ then !q else q)
  | q, c :: d :: cs =>
    if c == BS && special d then rawScan q cs
    else if c == ':' && !q then none
    else rawScan (if c == DQ then !q else q) (d :: cs)

theorem rawValueGo_cons_cons (c d : Char) (rest : Str) (q : Bool) :
    rawValueGo (c :: d :: rest) q =
      if c == BS && special d then rawValueGo rest q
      else if c == ':' && !q then d :: rest
      else rawValueGo (d :: rest) (if c == DQ then !q else q) := by
  simp only [rawValueGo, special]
  rfl

/-- any walk `F` that steps like `raw_value()` (skip an escaped pair, stop with `S` at a colon outside
    quotes, else track the quote) continues after a prefix that `rawScan` accepts on what follows -/
theorem rawScan_cont {α : Type} (F : Str → Bool → α) (S : Char → Str → α)
    (hF : ∀ c d rest q, F (c :: d :: rest) q =
      if c == BS && special d then F rest q else if c == ':' && !q then S d rest
      else F (d :: rest) (if c == DQ then !q else q))
    (t : Str) (ht : t ≠ []) (q : Bool) (s : Str) (q' : Bool) (h : rawScan q s = some q') :
    F (s ++ t) q = F t q' := by
  induction q, s using rawScan.induct with
  | case1 q => cases h; rfl
  | case2 q c hc => rw [rawScan, if_pos hc] at h; cases h
  | case3 q c hc =>
    obtain ⟨e, t', rfl⟩ := List.exists_cons_of_ne_nil ht
    rw [rawScan, if_neg hc] at h
    cases h
    simp only [Bool.or_eq_true, not_or, Bool.not_eq_true] at hc
    simp only [List.cons_append, List.nil_append, hF, hc.1, hc.2, Bool.false_and, Bool.false_eq_true, if_false]
  | case4 q c d cs hp ih =>
    rw [rawScan, if_pos hp] at h
    rw [List.cons_append, List.cons_append, hF, if_pos hp]
    exact ih h
  | case5 q c d cs hp hc => rw [rawScan, if_neg hp, if_pos hc] at h; cases h
  | case6 q c d cs hp hc ih =>
    rw [rawScan, if_neg hp, if_neg hc] at h
    rw [List.cons_append, List.cons_append, hF, if_neg hp, if_neg hc]
    exact ih h

theorem rawValueGo_append (t : Str) (ht : t ≠ []) (q : Bool) (s : Str) (q' : Bool) (h : rawScan q s = some q') :
    rawValueGo (s ++ t) q = rawValueGo t q' :=
  rawScan_cont rawValueGo (fun d rest => d :: rest) rawValueGo_cons_cons t ht q s q' h

theorem rawScan_append (b : Str) (q : Bool) (a : Str) (q' : Bool) (h : rawScan q a = some q') :
    rawScan q (a ++ b) = rawScan q' b := by
  cases b with
  | nil => rw [List.append_nil, h]; rfl
  | cons e es =>
    exact rawScan_cont (fun t q => rawScan q t) (fun _ _ => none) (fun _ _ _ _ => rfl) _ (by simp) q a q' h

/-- `raw_value()` passes over the text outside quotes and ends outside quotes -/
def RawBal (s : Str) : Prop := rawScan false s = some false

instance (s : Str) : Decidable (RawBal s) := by unfold RawBal; infer_instance

theorem RawBal.append {a b : Str} (ha : RawBal a) (hb : RawBal b) : RawBal (a ++ b) := by
  unfold RawBal at *
  rw [rawScan_append b false a false ha]; exact hb

theorem rawScan_plain : ∀ (s : Str) (q : Bool), BS ∉ s → ':' ∉ s → DQ ∉ s → rawScan q s = some q := by
  intro s
  induction s with
  | nil => intros; rfl
  | cons c cs ih =>
    intro q h1 h2 h3
    have c1 : (c == BS) = false := beq_eq_false_iff_ne.mpr (List.ne_of_not_mem_cons h1).symm
    have c2 : (c == ':') = false := beq_eq_false_iff_ne.mpr (List.ne_of_not_mem_cons h2).symm
    have c3 : (c == DQ) = false := beq_eq_false_iff_ne.mpr (List.ne_of_not_mem_cons h3).symm
    have := ih q (List.not_mem_of_not_mem_cons h1) (List.not_mem_of_not_mem_cons h2) (List.not_mem_of_not_mem_cons h3)
    cases cs with
    | nil => simp [rawScan, c1, c2, c3]
    | cons d ds => simp only [rawScan, c1, c2, c3, Bool.false_and, Bool.false_eq_true, if_false, this]

theorem rawScan_inq (q : Bool) (x : Str) (hq : q = true) (hx : DQ ∉ x) : rawScan q (x ++ [DQ]) = some false := by
  induction q, x using rawScan.induct with
  | case1 q => subst hq; rfl
  | case2 q c hc | case3 q c hc =>
    have c3 : (c == DQ) = false := beq_eq_false_iff_ne.mpr (List.ne_of_not_mem_cons hx).symm
    have s : special DQ = false := by decide
    subst hq
    simp only [List.cons_append, List.nil_append, rawScan, s, c3, Bool.and_false, Bool.not_true,
      Bool.false_eq_true, if_false]
    rfl
  | case4 q c d cs hp ih =>
    rw [List.cons_append, List.cons_append, rawScan, if_pos hp]
    exact ih hq (List.not_mem_of_not_mem_cons (List.not_mem_of_not_mem_cons hx))
  | case5 q c d cs hp hc => subst hq; simp at hc
  | case6 q c d cs hp hc ih =>
    have c3 : (c == DQ) = false := beq_eq_false_iff_ne.mpr (List.ne_of_not_mem_cons hx).symm
    rw [List.cons_append, List.cons_append, rawScan, if_neg hp, if_neg hc]
    rw [c3] at ih ⊢
    exact ih hq (List.not_mem_of_not_mem_cons hx)

theorem dquote_rawBal (x : Str) (hx : DQ ∉ x) : RawBal (dquote x) := by
  rw [dquote_of_noDQ x hx]
  split
  · unfold RawBal
    have : DQ :: x ++ [DQ] = [DQ] ++ (x ++ [DQ]) := by simp
    rw [this, rawScan_append _ false [DQ] true (by decide)]
    exact rawScan_inq true x rfl hx
  · next hq =>
    refine rawScan_plain x false (noBS_of_noQuotable x hq) ?_ hx
    exact fun hm => hq (List.any_eq_true.mpr ⟨':', hm, quotable_colon⟩)

theorem token_rawBal (n : Str) (hn : validToken n = true) : RawBal n :=
  rawScan_plain n false (token_noBS n hn) (token_noColon n hn) (validToken_noDQ n hn)

theorem paramsToIcal_rawBal (p : Params) (hd : ParamDomain p) (sorted : Bool) :
    RawBal (paramsToIcal p sorted) :=
  paramsText_ind_domain RawBal (by decide) (fun _ _ => RawBal.append) (by decide) (by decide) (by decide)
    p hd sorted token_rawBal (fun x hx => dquote_rawBal x hx.1)

theorem rawValue_lineText (n : Str) (p : Params) (v : Str) (sorted : Bool) (hn : validToken n = true)
    (hd : ParamDomain p) : rawValue (lineText n p v sorted) = v := by
  have hfin : ∀ pre : Str, RawBal pre → rawValue (pre ++ ':' :: v) = v := by
    intro pre hpre
    unfold rawValue
    rw [rawValueGo_append _ (by simp) false pre false hpre]
    cases v with
    | nil => rfl
    | cons d ds => simp [rawValueGo_cons_cons, BS]
  unfold lineText
  split
  · have := hfin n (token_rawBal n hn)
    simpa using this
  · have := hfin (n ++ [';'] ++ paramsToIcal p sorted)
      (((token_rawBal n hn).append (by decide)).append (paramsToIcal_rawBal p hd sorted))
    simpa using this

end raw

/-- a concrete map with hostile values for the non-vacuity checks of C05:
    `K=a\;L=1:b%3A` and the list `M=[x\ , ;Y=2:]` -/
def hostileParams : Params :=
  [(['M'], .many [['x', '\\'], [';', 'Y', '=', '2', ':']]),
   (['K'], .one ['a', '\\', ';', 'L', '=', '1', ':', 'b', '%', '3', 'A'])]

end ICal
