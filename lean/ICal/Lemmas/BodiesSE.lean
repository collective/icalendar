/-
  Equality of the regenerated `Event.end` / `Todo.end` and `tools.is_date` (ICal/Gen/BodiesSE.lean, tools/py2lean.py)
  with the hand model ICal/Model/StartEnd.lean (`endOf`, `Val.isDate`).  `self._get_start_end_duration()` (the
  validity checks) is external: the three values it returned are parameters of the translated `end`, as they are
  the arguments of the model's `endOf`.  The model's errors are the Python exception classes (`liftSE`).
-/
import ICal.Gen.BodiesSE
namespace ICal.Bodies
open ICal ICal.PyRT ICal.SE ICal.Gen.BodiesSE

def liftSE : Except SE.Err SE.Val → Py (Option SE.Val)
  | .ok v => .ok (some v)
  | .error .invalidCalendar => .error .invalidCalendar
  | .error .incompleteComponent => .error .incompleteComponent
  | .error .typeError => .error .typeError
  | .error .valueError => .error .valueError
  | .error .attributeError => .error .attributeError

theorem se_is_date_eq (v : SE.Val) : is_date v = v.isDate := by
  cases v <;> rfl

theorem Event_end_eq (st en : Option SE.Val) (du : Option Int) :
    Event_end (start := st) (end_ := en) (duration := du) = liftSE (endOf st en du) := by
  cases st with
  | none => cases en <;> cases du <;> rfl
  | some v =>
    cases du with
    | some x => cases en <;> rfl
    | none =>
      cases en with
      | some e => rfl
      | none =>
        -- only a start: `start + timedelta(days=1)` for a date, `start` itself otherwise
        show (if is_date v then _ else _) = liftSE (if v.isDate then _ else _)
        rw [se_is_date_eq]
        cases v.isDate <;> rfl

/-- cal.py writes out `end` once in Event and once in Todo; the two translations are the same term. -/
theorem Todo_end_same : @Todo_end = @Event_end := rfl

theorem Todo_end_eq (st en : Option SE.Val) (du : Option Int) :
    Todo_end (start := st) (end_ := en) (duration := du) = liftSE (endOf st en du) := by
  rw [Todo_end_same]; exact Event_end_eq st en du

end ICal.Bodies
