/-
  Equality of the regenerated second half of `Timezone.get_transitions` (ICal/Gen/BodiesTz.lean, tools/py2lean.py:
  `transition_times`, the loop over `enumerate(transitions)`, the search backwards over `range(num - 1, -1, -1)` and forwards
  over `range(num, len(transitions))` with `transitions[index]`, the local that is `False` or a timedelta, `if not dst_offset`
  - true for `False` AND for `timedelta(0)` -, `assert dst_offset is not False`) with the hand model `infoGo` / `dstOffset` of
  ICal/Model/Tz.lean.  The index loops are related to the model's structural recursion (`before` = the reversed prefix,
  `cur :: after` = the rest) by `bwd_loop` / `fwd_loop`.
-/
import ICal.Model.TzInfoPieces
import ICal.Lemmas.Tz
namespace ICal.Bodies
open ICal ICal.PyRT ICal.Tz ICal.Gen.BodiesTz

abbrev Tup := Int × Int × Int × Str

/-- `firstStd` on tuples -/
def firstStdT (dst : Str → Bool) : List Tup → Option Int
  | [] => none
  | x :: xs => if dst x.2.2.2 then firstStdT dst xs else some x.2.2.1

theorem firstStdT_map (dst : Str → Bool) : ∀ l : List Tr, firstStdT dst (l.map trTuple) = firstStd dst l
  | [] => rfl
  | x :: xs => by simp [firstStdT, firstStd, trTuple, firstStdT_map dst xs]

theorem listGetI_append (pre : List Tup) (x : Tup) (rest : List Tup) :
    listGetI (pre ++ x :: rest) (pre.length : Int) = .ok x := by
  unfold listGetI
  have h : ¬ ((pre.length : Int) < 0) := by omega
  simp [h]

/-- what a search loop leaves in `dst_offset` -/
def found (dst : Str → Bool) (osto : Int) (acc : Option Int) (l : List Tup) : Option Int :=
  match firstStdT dst l with
  | some s => some (osto - s)
  | none => acc

theorem fwd_loop (dst : Str → Bool) (cur : Tup) (acc : Option Int) : ∀ (suffix pre : List Tup),
    get_transitions_info_loop3 (pre ++ suffix) () (dstOfP dst) cur acc
      (rangeUp ((pre ++ suffix).length : Int) 1 suffix.length (pre.length : Int)) = .ok (found dst cur.2.2.1 acc suffix)
  | [], pre => by simp [rangeUp, get_transitions_info_loop3, found, firstStdT, pure, Except.pure]
  | x :: xs, pre => by
    have hlt : (pre.length : Int) < ((pre ++ x :: xs).length : Int) := by simp; omega
    have ih := fwd_loop dst cur acc xs (pre ++ [x])
    have e1 : pre ++ [x] ++ xs = pre ++ x :: xs := by simp
    have e2 : ((pre ++ [x]).length : Int) = (pre.length : Int) + 1 := by simp
    rw [e1, e2] at ih
    simp only [List.length_cons, rangeUp, hlt, if_true, get_transitions_info_loop3, listGetI_append, dstOfP, bind, Except.bind,
      found, firstStdT]
    by_cases hd : dst x.2.2.2 = true
    · simp only [hd, Bool.not_true, Bool.false_eq_true, if_false, if_true]
      simpa [found] using ih
    · simp [hd, pure, Except.pure]

theorem bwd_loop (dst : Str → Bool) (cur : Tup) (acc : Option Int) : ∀ (rev rest : List Tup),
    get_transitions_info_loop2 (rev.reverse ++ rest) () (dstOfP dst) cur acc
      (rangeDown (-1) (-1) rev.length ((rev.length : Int) - 1)) = .ok (found dst cur.2.2.1 acc rev)
  | [], rest => by simp [rangeDown, get_transitions_info_loop2, found, firstStdT, pure, Except.pure]
  | x :: rev', rest => by
    have hgt : (((rev'.length + 1 : Nat) : Int) - 1) > -1 := by omega
    have e0 : (((rev'.length + 1 : Nat) : Int) - 1) = ((rev'.reverse).length : Int) := by rw [List.length_reverse]; omega
    have e1 : (x :: rev').reverse ++ rest = rev'.reverse ++ x :: rest := by simp
    have ih := bwd_loop dst cur acc rev' (x :: rest)
    have e3 : ((rev'.reverse).length : Int) + -1 = (rev'.length : Int) - 1 := by rw [List.length_reverse]; omega
    simp only [List.length_cons, rangeDown, hgt, if_true, get_transitions_info_loop2, e1]
    rw [e0, listGetI_append]
    simp only [dstOfP, bind, Except.bind, found, firstStdT, e3]
    by_cases hd : dst x.2.2.2 = true
    · simp only [hd, Bool.not_true, Bool.false_eq_true, if_false, if_true]
      simpa [found] using ih
    · simp [hd, pure, Except.pure]

theorem pyRange_down (n : Nat) : pyRange ((n : Int) - 1) (-1) (-1) = .ok (rangeDown (-1) (-1) n ((n : Int) - 1)) := by
  simp [pyRange]

theorem pyRange_up (k m : Nat) : pyRange (k : Int) ((k + m : Nat) : Int) 1 = .ok (rangeUp ((k + m : Nat) : Int) 1 m (k : Int)) := by
  have h : (((k + m : Nat) : Int) - (k : Int)).toNat = m := by omega
  unfold pyRange
  rw [h]
  simp

/-- the view of the model's rows as the tuples appended to `transition_info` -/
def entTuple (e : Ent) : Int × Int × Str := (e.off, e.dst, e.name)

theorem dstOffset_eq (dst : Str → Bool) (before : List Tr) (cur : Tr) (after : List Tr) (hd : dst cur.name = true) :
    dstOffset dst before cur after =
      (let l := found dst cur.osto none (before.map trTuple)
       if !(truthy l) then found dst cur.osto l ((cur :: after).map trTuple) else l) := by
  simp only [dstOffset, hd, Bool.not_true, Bool.false_eq_true, if_false, found, firstStdT_map]
  cases h1 : firstStd dst before with
  | none =>
    simp only [truthy]
    cases h2 : firstStd dst (cur :: after) <;> simp
  | some s =>
    by_cases h0 : cur.osto - s = 0
    · simp only [h0, truthy, ne_eq, not_true_eq_false, if_false]
      cases h2 : firstStd dst (cur :: after) <;> simp
    · simp [h0, truthy]

theorem loop1_step (dst : Str → Bool) (pre : List Tr) (cur : Tr) (rest : List Tr) (acc : List (Int × Int × Str)) :
    get_transitions_info_loop1 ((pre ++ cur :: rest).map trTuple) () (dstOfP dst) (pre.length : Int) acc
        (trTuple cur :: rest.map trTuple) =
      match dstOffset dst pre.reverse cur rest with
      | some d => get_transitions_info_loop1 ((pre ++ cur :: rest).map trTuple) () (dstOfP dst) ((pre.length : Int) + 1)
          (acc ++ [(cur.osto, d, cur.name)]) (rest.map trTuple)
      | none => .error .assertionError := by
  by_cases hd : dst cur.name = true
  · have hb := bwd_loop dst (trTuple cur) none (pre.reverse.map trTuple) (trTuple cur :: rest.map trTuple)
    have hf := fun l => fwd_loop dst (trTuple cur) l (trTuple cur :: rest.map trTuple) (pre.map trTuple)
    have hT : pre.map trTuple ++ trTuple cur :: rest.map trTuple = (pre ++ cur :: rest).map trTuple := by simp
    simp only [List.map_reverse, List.reverse_reverse, List.length_reverse, List.length_map, hT] at hb hf
    have hup : pyRange (pre.length : Int) ((List.map trTuple (pre ++ cur :: rest)).length : Int) 1 =
        .ok (rangeUp ((pre ++ cur :: rest).length : Int) 1 (trTuple cur :: List.map trTuple rest).length (pre.length : Int)) := by
      have := pyRange_up pre.length (rest.length + 1)
      simpa using this
    rw [get_transitions_info_loop1]
    simp only [dstOfP, bind, Except.bind, show (trTuple cur).2.2.2 = cur.name from rfl, hd, Bool.not_true,
      Bool.false_eq_true, if_false, pyRange_down, hb, hup, hf]
    rw [dstOffset_eq dst pre.reverse cur rest hd]
    simp only [List.map_reverse, List.map_cons, show (trTuple cur).2.2.1 = cur.osto from rfl]
    split
    · generalize found dst cur.osto _ (trTuple cur :: _) = r
      cases r <;> rfl
    · generalize found dst cur.osto none _ = r
      cases r <;> rfl
  · have hd' : dst cur.name = false := by simpa using hd
    simp [get_transitions_info_loop1, dstOfP, bind, Except.bind, trTuple, hd', tdSeconds, dstOffset]

theorem outer_loop (dst : Str → Bool) : ∀ (rest pre : List Tr) (acc : List (Int × Int × Str)),
    get_transitions_info_loop1 ((pre ++ rest).map trTuple) () (dstOfP dst) (pre.length : Int) acc (rest.map trTuple) =
      match infoGo dst pre.reverse rest with
      | some es => .ok (acc ++ es.map entTuple)
      | none => .error .assertionError
  | [], pre, acc => by simp [get_transitions_info_loop1, infoGo, pure, Except.pure]
  | cur :: rest', pre, acc => by
    have ih := fun acc' => outer_loop dst rest' (pre ++ [cur]) acc'
    simp only [List.append_assoc, List.singleton_append, List.length_append, List.length_singleton, Int.natCast_add,
      Int.natCast_one, List.reverse_append, List.reverse_singleton] at ih
    rw [List.map_cons, loop1_step, infoGo]
    cases dstOffset dst pre.reverse cur rest' with
    | none => rfl
    | some d =>
      simp only [ih]
      cases infoGo dst (cur :: pre.reverse) rest' <;> simp [entTuple]

/-- the regenerated fragment on the model's sorted transitions: the model's `infoGo`, AssertionError where it has none -/
theorem transitionsInfoP_eq (dst : Str → Bool) (trs : List Tr) :
    transitionsInfoP dst trs = infoView (infoGo dst [] trs) := by
  have h := outer_loop dst trs [] []
  simp only [List.reverse_nil] at h
  change get_transitions_info_loop1 (trs.map trTuple) () (dstOfP dst) 0 [] (trs.map trTuple) = _ at h
  unfold transitionsInfoP get_transitions_info infoView
  cases hi : infoGo dst [] trs with
  | none =>
    simp only [hi] at h
    simp only [h, bind, Except.bind]
  | some es =>
    simp only [hi] at h
    simp only [h, bind, Except.bind, pure, Except.pure, List.nil_append, (infoGo_spec hi).1, List.map_map,
      Function.comp_def, trTuple]
    rfl

end ICal.Bodies
