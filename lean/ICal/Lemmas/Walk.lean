/-
  Helper lemmas for C20: traversal (`walk` as a filter of the pre-order listing, positions).
  At the end, the facts about looking an entry up by name (`find?` on the stored name) that both the
  parser's sorted-tree lemmas and the equality proofs use.
-/
import ICal.Model.Walk
namespace ICal

/-- the test `_walk` applies to each component -/
def walkTest (name? : Option Str) (sel : Comp → Bool) (c : Comp) : Bool :=
  (match name? with | none => true | some k => c.name == k) && sel c

mutual
theorem walkAux_filter (name? : Option Str) (sel : Comp → Bool) :
    ∀ c, walkAux name? sel c = (preorder c).filter (walkTest name? sel)
  | .mk n p subs => by
    simp only [walkAux, preorder, List.filter_cons, walkAuxL_filter name? sel subs, walkTest, Comp.name]
    split <;> simp <;> split <;> simp
theorem walkAuxL_filter (name? : Option Str) (sel : Comp → Bool) :
    ∀ cs, walkAuxL name? sel cs = (preorderL cs).filter (walkTest name? sel)
  | [] => by simp [walkAuxL, preorderL]
  | c :: cs => by
    simp only [walkAuxL, preorderL, List.filter_append, walkAux_filter name? sel c, walkAuxL_filter name? sel cs]
end

theorem walkTest_none (sel : Comp → Bool) : walkTest none sel = sel := by
  funext c
  exact Bool.true_and _

theorem walkTest_some (k : Str) (sel : Comp → Bool) : walkTest (some k) sel = fun c => c.name == k && sel c := rfl

theorem walk_eq_filter (name? : Option Str) (sel : Comp → Bool) (t : Comp) :
    walk name? sel t = (preorder t).filter (walkTest (name?.map upper) sel) :=
  walkAux_filter _ sel t

theorem walk_kind (k : Str) (hk : upper k = k) (t : Comp) :
    walk (some k) (fun _ => true) t = (preorder t).filter (fun c => c.name == k) := by
  rw [walk_eq_filter, Option.map_some, hk, walkTest_some]
  simp only [Bool.and_true]

mutual
theorem preorder_length : ∀ c, (preorder c).length = size c
  | .mk n p subs => by simp [preorder, size, preorderL_length subs]; omega
theorem preorderL_length : ∀ cs, (preorderL cs).length = sizeL cs
  | [] => by simp [preorderL, sizeL]
  | c :: cs => by simp [preorderL, sizeL, preorder_length c, preorderL_length cs]
end

theorem preorderL_flatMap : ∀ cs, preorderL cs = cs.flatMap preorder
  | [] => by simp [preorderL]
  | c :: cs => by simp [preorderL, preorderL_flatMap cs]

theorem preorder_eq (n : Str) (p : List Entry) (subs : List Comp) :
    preorder (.mk n p subs) = .mk n p subs :: subs.flatMap preorder := by
  rw [preorder, preorderL_flatMap]

theorem compAt_nil (c : Comp) : compAt c [] = some c := by
  cases c; simp [compAt]

theorem compAt_cons (n : Str) (p : List Entry) (subs : List Comp) (i : Nat) (rest : List Nat) :
    compAt (.mk n p subs) (i :: rest) = (subs[i]?).bind (fun c => compAt c rest) := by
  rw [compAt]; cases subs[i]? <;> simp

mutual
theorem positions_preorder : ∀ c, (positions c).map (compAt c) = (preorder c).map some
  | .mk n p subs => by
    simp only [positions, preorder, List.map_cons, compAt_nil]
    congr 1
    have h := positionsL_preorder n p subs []
    simpa using h
theorem positionsL_preorder (n : Str) (p : List Entry) : ∀ (cs pre : List Comp),
    (positionsL pre.length cs).map (compAt (.mk n p (pre ++ cs))) = (preorderL cs).map some
  | [], _ => by simp [positionsL, preorderL]
  | c :: cs, pre => by
    simp only [positionsL, preorderL, List.map_append, List.map_map]
    congr 1
    · rw [← positions_preorder c]
      apply List.map_congr_left
      intro path _
      simp [compAt_cons]
    · have h := positionsL_preorder n p cs (pre ++ [c])
      simpa using h
end

theorem positionsL_head (cs : List Comp) : ∀ (i : Nat) (path : List Nat), path ∈ positionsL i cs →
    ∃ j rest, path = j :: rest ∧ i ≤ j := by
  induction cs with
  | nil => intro i path h; simp [positionsL] at h
  | cons c cs ih =>
    intro i path h
    simp only [positionsL, List.mem_append, List.mem_map] at h
    rcases h with ⟨q, _, rfl⟩ | h
    · exact ⟨i, q, rfl, Nat.le_refl _⟩
    · obtain ⟨j, rest, e, hj⟩ := ih (i + 1) path h
      exact ⟨j, rest, e, by omega⟩

mutual
theorem positions_nodup : ∀ c, (positions c).Nodup
  | .mk n p subs => by
    simp only [positions, List.nodup_cons]
    refine ⟨?_, positionsL_nodup subs 0⟩
    intro h
    obtain ⟨j, rest, e, _⟩ := positionsL_head subs 0 [] h
    cases e
theorem positionsL_nodup : ∀ (cs : List Comp) (i : Nat), (positionsL i cs).Nodup
  | [], _ => by simp [positionsL]
  | c :: cs, i => by
    simp only [positionsL]
    rw [List.nodup_append]
    refine ⟨?_, positionsL_nodup cs (i + 1), ?_⟩
    · exact List.Pairwise.map _ (fun a b h => by simpa using h) (positions_nodup c)
    · intro a ha b hb hab
      subst hab
      simp only [List.mem_map] at ha
      obtain ⟨q, _, rfl⟩ := ha
      obtain ⟨j, rest, e, hj⟩ := positionsL_head cs (i + 1) _ hb
      simp at e
      omega
end

mutual
theorem positions_complete : ∀ (c : Comp) (path : List Nat) (d : Comp),
    compAt c path = some d → path ∈ positions c
  | .mk n p subs, [], _, _ => by simp [positions]
  | .mk n p subs, i :: rest, d, h => by
    simp only [positions, List.mem_cons, reduceCtorEq, false_or]
    rw [compAt_cons] at h
    have := positionsL_complete subs 0 i rest d (by simpa using h)
    simpa using this
theorem positionsL_complete : ∀ (cs : List Comp) (k i : Nat) (rest : List Nat) (d : Comp),
    (cs[i]?).bind (fun c => compAt c rest) = some d → (k + i) :: rest ∈ positionsL k cs
  | [], _, _, _, _, h => by simp at h
  | c :: cs, k, 0, rest, d, h => by
    simp only [positionsL, List.mem_append, List.mem_map]
    left
    exact ⟨rest, positions_complete c rest d (by simpa using h), by simp⟩
  | c :: cs, k, i + 1, rest, d, h => by
    simp only [positionsL, List.mem_append]
    right
    have := positionsL_complete cs (k + 1) i rest d (by simpa using h)
    have e : k + 1 + i = k + (i + 1) := by omega
    rw [e] at this
    exact this
end

theorem find_name_some {props : List Entry} {k : Str} {e : Entry}
    (h : props.find? (fun e => e.name == k) = some e) : e.name = k ∧ e ∈ props :=
  ⟨by simpa using List.find?_some h, List.mem_of_find?_eq_some h⟩

theorem find_name_of_mem (props : List Entry) (k : Str) (h : k ∈ props.map (·.name)) :
    ∃ e, props.find? (fun e => e.name == k) = some e := by
  obtain ⟨e, he, hk⟩ := List.mem_map.mp h
  exact Option.isSome_iff_exists.1 (List.find?_isSome.2 ⟨e, he, by simpa using hk⟩)

theorem find_of_distinct : ∀ (p : List Entry), keysDistinct p → ∀ a ∈ p,
    p.find? (fun b => b.name == a.name) = some a
  | [], _, _, h => by cases h
  | x :: t, hd, a, ha => by
    rw [keysDistinct, List.map_cons, List.nodup_cons] at hd
    rcases List.mem_cons.1 ha with rfl | hat
    · exact List.find?_cons_of_pos (p := fun b : Entry => b.name == a.name) (beq_self_eq_true _)
    · have hne : x.name ≠ a.name := fun h => hd.1 (h ▸ List.mem_map_of_mem hat)
      rw [List.find?_cons_of_neg (by simpa using hne)]
      exact find_of_distinct t hd.2 a hat

end ICal
