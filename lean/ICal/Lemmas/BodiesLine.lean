/-
  Equality of the regenerated content-line bodies (ICal/Gen/BodiesLine.lean, tools/py2lean.py) with the
  hand model of ICal/Model/Line.lean: the two `.replace` chains, `Contentline.raw_value` (a `while`
  loop with an index, `continue` and `return`: recursion on fuel; the theorem shows the fuel
  `len + 1` suffices and the loop equals the structural scanner `rawValueGo`) and the scanning loop
  of `Contentline.parts` (a fragment: the loop and the initialisation of its state), and the WHOLE of
  `Contentline.parts` with its external calls as parameters: `validate_token`, `Parameters.from_ical`
  and the expression `Parameters((unescape_string(key), unescape_list_or_string(value)) for ..)`;
  `parts_eq` instantiates them with the hand model's `validToken`, `paramsFromIcal` and the re-keying
  fold, and proves the translated function equal to the model `parts`.
-/
import ICal.Gen.BodiesLine
import ICal.Model.Line
import ICal.Lemmas.BodiesRT
namespace ICal.Bodies
open ICal ICal.PyRT ICal.Gen.BodiesLine

theorem escape_string_eq (s : Str) : escape_string s = escapeString s := by
  simp [escape_string, escapeString, applyChain, Gen.escapeStringChain]

theorem unescape_string_eq (s : Str) : unescape_string s = unescapeString s := by
  simp [unescape_string, unescapeString, applyChain, Gen.unescapeStringChain]

/-- what `raw_value` makes of the outcome of its loop -/
def rawFinish : Loop (Int × Bool) Str → Str
  | .ret v => v
  | .fell _ => []

/-- one step of the model's scanner, with the test on the next character as the source writes it
    (`self[i + 1 : i + 2] in (",", ":", ";", "\\")`, false at the end of the line) -/
theorem rawValueGo_step (ch : Char) (tl : Str) (inq : Bool) :
    rawValueGo (ch :: tl) inq =
      if (ch == '\\' && [[','], [':'], [';'], ['\\']].contains (tl.take 1)) = true then rawValueGo (tl.drop 1) inq
      else if (ch == ':' && !inq) = true then tl
      else rawValueGo tl (if (ch == '"') = true then !inq else inq) := by
  cases tl with
  | nil =>
    have hnot : [[','], [':'], [';'], ['\\']].contains (List.take 1 ([] : Str)) = false := by decide
    simp only [hnot, Bool.and_false, Bool.false_eq_true, if_false, rawValueGo, ite_self]
  | cons d rest =>
    have hcon : [[','], [':'], [';'], ['\\']].contains (List.take 1 (d :: rest)) =
        (d == ',' || d == ':' || d == ';' || d == BS) := by
      rw [Bool.eq_iff_iff]
      simp [BS, or_assoc]
    rw [hcon, rawValueGo]
    rfl

theorem raw_value_loop (self : Str) : ∀ (fuel n : Nat) (inq : Bool), self.length - n < fuel →
    ∃ r, raw_value_loop1 self fuel (n : Int) inq = .ok r ∧ rawFinish r = rawValueGo (self.drop n) inq := by
  intro fuel
  induction fuel with
  | zero => intro n inq h; omega
  | succ f ih =>
    intro n inq hf
    unfold raw_value_loop1
    by_cases hlt : n < self.length
    · have hc : (decide ((n : Int) < strLen self)) = true := by simp [strLen_eq]; omega
      obtain ⟨ch, tl, hd⟩ : ∃ ch tl, self.drop n = ch :: tl := by
        cases h : self.drop n with
        | nil => simp at h; omega
        | cons a b => exact ⟨a, b, rfl⟩
      have htl : self.drop (n + 1) = tl := by
        have := congrArg (List.drop 1) hd; simpa [List.drop_drop, Nat.add_comm] using this
      have htl2 : self.drop (n + 2) = tl.drop 1 := by rw [← htl, List.drop_drop]
      have e1 : ((n : Int) + 1) = ((n + 1 : Nat) : Int) := by push_cast; rfl
      have e2 : ((n : Int) + 2) = ((n + 2 : Nat) : Int) := by push_cast; rfl
      have hsub : n + 2 - (n + 1) = 1 := by omega
      simp only [hc, if_true, strIndex_nat self n ch tl hd, e1, e2, pySliceI_nat, pySliceFromI_nat, htl,
        bind, Except.bind, hd, hsub]
      rw [rawValueGo_step]
      by_cases h0 : (ch == '\\' && [[','], [':'], [';'], ['\\']].contains (tl.take 1)) = true
      · rw [if_pos h0, if_pos h0, ← htl2]
        exact ih (n + 2) inq (by omega)
      · rw [if_neg h0, if_neg h0]
        by_cases h1 : (ch == ':' && !inq) = true
        · rw [if_pos h1, if_pos h1]
          exact ⟨_, rfl, rfl⟩
        · rw [if_neg h1, if_neg h1, ← htl]
          exact ih (n + 1) _ (by omega)
    · have hc : (decide ((n : Int) < strLen self)) = false := by simp [strLen_eq]; omega
      have : self.drop n = [] := List.drop_of_length_le (by omega)
      simp [hc, this, rawValueGo, rawFinish, pure, Except.pure]

theorem raw_value_eq (line : Str) : raw_value line = .ok (rawValue line) := by
  obtain ⟨r, hr, hr2⟩ := raw_value_loop line (line.length + 1) 0 false (by omega)
  simp only [raw_value, rawValue]
  have : raw_value_loop1 line (line.length + 1) (0 : Int) false = .ok r := hr
  simp only [this, bind, Except.bind]
  simp only [List.drop_zero] at hr2
  rw [← hr2]
  cases r <;> rfl

def optInt (o : Option Nat) : Option Int := o.map (fun n => (n : Int))

theorem truthy_optInt (o : Option Nat) : truthy (optInt o) = !falsy o := by
  cases o with
  | none => rfl
  | some n =>
    show truthy (n : Int) = _
    rw [truthy_nat]
    cases n <;> rfl

theorem parts_scan_step (ch : Char) (rest : Str) (i : Nat) (iL : Option Int) (ns vs : Option Nat) (inq : Bool) :
    parts_scan_loop1 (i : Int) iL (optInt ns) (optInt vs) inq (ch :: rest) =
      parts_scan_loop1 ((i + 1 : Nat) : Int) (some (i : Int))
        (optInt (if !inq && (ch == ':' || ch == ';') && falsy ns then some i else ns))
        (optInt (if !inq && ch == ':' && falsy vs then some i else vs)) (if ch == DQ then !inq else inq) rest := by
  have e1 : ((i : Int) + 1) = ((i + 1 : Nat) : Int) := by push_cast; rfl
  have hcon : ([':', ';'] : Str).contains ch = (ch == ':' || ch == ';') := by
    simp only [List.contains_cons, List.contains_nil, Bool.or_false]
  have eo : optInt (some i) = some (i : Int) := rfl
  rw [parts_scan_loop1]
  simp only [truthy_optInt, e1, hcon, Bool.not_not, apply_ite optInt, eo]
  -- outside quotes both sides are the same two conditionals, inside quotes nothing moves
  cases inq
  · simp only [Bool.not_false, Bool.true_and, if_true]; rfl
  · simp only [Bool.not_true, Bool.false_and, Bool.false_eq_true, if_false]; rfl

theorem parts_scan_loop (l : Str) : ∀ (i : Nat) (iL : Option Int) (ns vs : Option Nat) (inq : Bool),
    (parts_scan_loop1 (i : Int) iL (optInt ns) (optInt vs) inq l).1 = optInt (scanParts l i inq ns vs).1 ∧
    (parts_scan_loop1 (i : Int) iL (optInt ns) (optInt vs) inq l).2.1 = optInt (scanParts l i inq ns vs).2 ∧
    (parts_scan_loop1 (i : Int) iL (optInt ns) (optInt vs) inq l).2.2.2 =
      (if l = [] then iL else some (((i + l.length - 1 : Nat)) : Int)) := by
  induction l with
  | nil => intro i iL ns vs inq; simp [parts_scan_loop1, scanParts]
  | cons ch rest ih =>
    intro i iL ns vs inq
    rw [parts_scan_step]
    obtain ⟨h1, h2, h3⟩ := ih (i + 1) (some (i : Int))
      (if !inq && (ch == ':' || ch == ';') && falsy ns then some i else ns)
      (if !inq && ch == ':' && falsy vs then some i else vs) (if ch == DQ then !inq else inq)
    refine ⟨by rw [h1]; rfl, by rw [h2]; rfl, ?_⟩
    rw [h3]
    cases rest with
    | nil => simp
    | cons a b => simp; omega

theorem parts_scan_init (st : Str) : ∃ q, parts_scan_loop1 (0 : Int) none (none : Option Int) (none : Option Int) false st =
    (optInt (scanParts st 0 false none none).1, optInt (scanParts st 0 false none none).2, q,
      if st = [] then none else some (((st.length - 1 : Nat)) : Int)) := by
  obtain ⟨h1, h2, h3⟩ := parts_scan_loop st 0 none none none false
  exact ⟨_, Prod.ext h1 (Prod.ext h2 (Prod.ext rfl (h3.trans (by simp))))⟩

/-- the scanning loop of `parts()` on the escaped line: the two split positions are those of the hand model;
    `i` after the loop is the last index (the source reads it as `i + 1`, the length), unbound for the empty line -/
theorem parts_scan_eq (st : Str) :
    parts_scan st = (optInt (scanParts st 0 false none none).1, optInt (scanParts st 0 false none none).2,
      if st = [] then none else some (((st.length - 1 : Nat)) : Int)) := by
  obtain ⟨q, h⟩ := parts_scan_init st
  simp only [parts_scan, h]

/-- the loop of the translated `parts` (in `Py`, because the function can raise) is the loop of the fragment -/
theorem parts_loop_pure (l : Str) : ∀ (i : Int) (iL ns vs : Option Int) (inq : Bool),
    parts_loop1 i iL ns vs inq l = .ok (parts_scan_loop1 i iL ns vs inq l) := by
  induction l with
  | nil => intro i iL ns vs inq; rfl
  | cons ch rest ih => intro i iL ns vs inq; simp only [parts_loop1, parts_scan_loop1]; exact ih _ _ _ _ _

/-- the hand model's external pieces, as the parameters of the translated `parts` -/
def validateTokenP (n : Str) : Py Unit := if validToken n then .ok () else .error .valueError
def paramsFromIcalP (t : Str) (strict : Bool) : Py Params :=
  match paramsFromIcal t strict with
  | some p => .ok p
  | none => .error .valueError
def paramsUnescapeP (ps : Params) : Params :=
  ps.foldl (fun acc kv => Params.put acc (upper (unescapeString kv.1)) (unescapePVal kv.2)) []

theorem pySliceO_to (s : Str) (o : Option Nat) :
    pySliceO s none (optInt o) = (match o with | none => s | some k => s.take k) := by
  cases o with
  | none => simp [pySliceO, optClamp, optInt]
  | some k =>
    have e : optInt (some k) = some (k : Int) := rfl
    simp only [pySliceO, e, optClamp, clampIdx_nat, List.drop_zero, Nat.sub_zero]
    by_cases h : k ≤ s.length
    · rw [Nat.min_eq_left h]
    · have h' : s.length ≤ k := by omega
      rw [Nat.min_eq_right h', List.take_of_length_le (Nat.le_refl _), List.take_of_length_le h']

theorem throwPy_eq {α : Type} (e : Exc) : (throw e : Py α) = Except.error e := rfl

theorem unescapeString_nil : unescapeString [] = [] := by decide

theorem parts_tail (cs : List Exc)
    (st name : Str) (ns : Option Nat) (vsplit : Nat) (strict : Bool) :
    remap cs
      (if (falsy ns || some ((optInt ns).getD 0 + 1) == some (vsplit : Int)) = true then throw Exc.valueError
       else
        (intOfOpt (optInt ns) >>= fun v_1 =>
          paramsFromIcalP (pySliceO st (some (v_1 + 1)) (some (vsplit : Int))) strict >>= fun v_2 =>
          intOfOpt (some (vsplit : Int)) >>= fun v =>
          (Except.ok (name, paramsUnescapeP v_2, unescapeString (pySliceFromI st (v + 1))) : Py (Str × Params × Str)))) =
    (match
      (if (falsy ns || ns.getD 0 + 1 == vsplit) = true then none
       else
        match paramsFromIcal (List.take (vsplit - (ns.getD 0 + 1)) (List.drop (ns.getD 0 + 1) st)) strict with
        | none => none
        | some ps =>
          some (name, List.foldl (fun acc kv => Params.put acc (upper (unescapeString kv.fst)) (unescapePVal kv.snd)) [] ps,
            unescapeString (List.drop (vsplit + 1) st))) with
     | some r => Except.ok r
     | none => Except.error Exc.valueError) := by
  have hgd : (optInt ns).getD 0 = ((ns.getD 0 : Nat) : Int) := by cases ns <;> rfl
  have hcond : (falsy ns || some ((optInt ns).getD 0 + 1) == some (vsplit : Int)) =
      (falsy ns || ns.getD 0 + 1 == vsplit) := by
    rw [hgd, Bool.eq_iff_iff]
    simp only [Bool.or_eq_true, beq_iff_eq, Option.some.injEq]
    constructor <;> intro h <;> rcases h with h | h
    · exact Or.inl h
    · right; omega
    · exact Or.inl h
    · right; omega
  rw [hcond]
  by_cases hc : (falsy ns || ns.getD 0 + 1 == vsplit) = true
  -- nothing but `ValueError` is raised inside, and `remap` hands that on as `ValueError` whatever it catches
  · simp [hc, remap, throwPy_eq]
  · simp only [hc, Bool.false_eq_true, if_false]
    cases ns with
    | none => simp [falsy] at hc
    | some k =>
      have e1 : ((k : Int) + 1) = ((k + 1 : Nat) : Int) := by push_cast; rfl
      have e2 : ((vsplit : Int) + 1) = ((vsplit + 1 : Nat) : Int) := by push_cast; rfl
      have eo : optInt (some k) = some (k : Int) := rfl
      simp only [bind, Except.bind, eo, intOfOpt, e1, e2, pySliceO_nat, pySliceFromI_nat, Option.getD_some, paramsFromIcalP]
      cases paramsFromIcal (List.take (vsplit - (k + 1)) (List.drop (k + 1) st)) strict with
      | none => simp [remap]
      | some ps => simp [remap, paramsUnescapeP]

theorem parts_eq (line : Str) (strict : Bool) :
    Gen.BodiesLine.parts line validateTokenP strict paramsFromIcalP paramsUnescapeP =
      (match ICal.parts line strict with
       | some r => .ok r
       | none => .error .valueError) := by
  obtain ⟨q, hr⟩ := parts_scan_init (escapeString line)
  simp only [Gen.BodiesLine.parts, ICal.parts, escape_string_eq, unescape_string_eq, parts_loop_pure, bind, Except.bind]
  rw [hr]
  generalize escapeString line = st
  generalize scanParts st 0 false none none = sc
  obtain ⟨ns, vs⟩ := sc
  simp only [pySliceO_to, truthy_optInt, truthy_str]
  generalize hname : unescapeString (match ns with | none => st | some k => List.take k st) = name
  by_cases hemp : name.isEmpty = true
  · simp [hemp, remap, throwPy_eq]
  · have hne : st ≠ [] := by
      intro e; subst e
      have : name = [] := by rw [← hname]; cases ns <;> simp [unescapeString_nil]
      simp [this] at hemp
    have hL : 0 < st.length := List.length_pos_iff.mpr hne
    simp only [hemp, Bool.not_false, Bool.not_true, Bool.false_eq_true, if_false, hne, Bool.not_not]
    by_cases hvt : validToken name = true
    · simp only [validateTokenP, hvt, if_true, Bool.not_true, Bool.false_eq_true, if_false]
      by_cases hf : falsy vs = true
      · simp only [hf, if_true, getBound, pure, Except.pure]
        have ev : (((st.length - 1 : Nat)) : Int) + 1 = (st.length : Int) := by omega
        simp only [ev]
        have := parts_tail valueErrors st name ns st.length strict
        simp only [bind, Except.bind] at this
        exact this
      · simp only [hf, if_false, Bool.false_eq_true, pure, Except.pure]
        -- a truthy `value_split` is the model's `vs.getD 0`; written so, the goal is `parts_tail` to the letter
        have hvs : optInt vs = some ((vs.getD 0 : Nat) : Int) := by
          cases vs with
          | none => exact absurd rfl hf
          | some k => rfl
        rw [hvs]
        have := parts_tail valueErrors st name ns (vs.getD 0) strict
        simp only [bind, Except.bind] at this
        exact this
    · simp [validateTokenP, hvt, remap]

end ICal.Bodies
