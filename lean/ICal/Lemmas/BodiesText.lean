/-
  Equality of the regenerated `parser.split_on_unescaped_comma` (ICal/Gen/BodiesText.lean, tools/py2lean.py:
  a `for` loop with a string builder, a result list and an `escaped` flag) with the hand model
  `splitUnescComma` of ICal/Model/Text.lean (a scanner with one character of look-ahead).
-/
import ICal.Gen.BodiesText
import ICal.Lemmas.Text
namespace ICal.Bodies
open ICal ICal.PyRT ICal.Gen.BodiesText

/-- what `split_on_unescaped_comma` makes of the final state of its loop -/
def splitFinish (r : Str × Bool × List Str) : List Str := r.2.2 ++ [r.1]

theorem step_comma (item : Str) (res : List Str) (rest : Str) :
    split_on_unescaped_comma_loop1 item false res (',' :: rest) =
      split_on_unescaped_comma_loop1 [] false (res ++ [item]) rest := by
  have hb : (',' == '\\') = false := by decide
  simp [split_on_unescaped_comma_loop1, hb]

theorem step_plain (c : Char) (h1 : c ≠ '\\') (h2 : c ≠ ',') (item : Str) (res : List Str) (rest : Str) :
    split_on_unescaped_comma_loop1 item false res (c :: rest) =
      split_on_unescaped_comma_loop1 (item ++ [c]) false res rest := by
  simp [split_on_unescaped_comma_loop1, h1, h2]

theorem step_bs (item : Str) (res : List Str) (rest : Str) :
    split_on_unescaped_comma_loop1 item false res ('\\' :: rest) =
      split_on_unescaped_comma_loop1 (item ++ ['\\']) true res rest := by
  simp [split_on_unescaped_comma_loop1]

theorem step_esc (d : Char) (item : Str) (res : List Str) (rest : Str) :
    split_on_unescaped_comma_loop1 item true res (d :: rest) =
      split_on_unescaped_comma_loop1 (item ++ [d]) false res rest := by
  simp [split_on_unescaped_comma_loop1]

/-- `item` is the text collected so far for the item that the head of the result continues -/
theorem split_loop : ∀ (n : Nat) (l : Str), l.length ≤ n → ∀ (item : Str) (res : List Str),
    splitFinish (split_on_unescaped_comma_loop1 item false res l) = res ++ consHd item (splitUnescComma l) := by
  intro n
  induction n using Nat.strongRecOn with
  | _ n ih =>
    intro l hl item res
    cases l with
    | nil => simp [split_on_unescaped_comma_loop1, splitFinish, splitUnescComma, consHd]
    | cons c cs =>
      have hl1 : cs.length < n := by simp at hl; omega
      by_cases h1 : c = '\\'
      · subst h1
        cases cs with
        | nil => simp [split_on_unescaped_comma_loop1, splitFinish, splitUnescComma, consHd]
        | cons d ds =>
          have e : splitUnescComma ('\\' :: d :: ds) = consHd ['\\', d] (splitUnescComma ds) := split_esc d ds
          rw [step_bs, step_esc, ih _ hl1 ds (by simp), e, consHd_consHd, List.append_assoc]
          rfl
      · by_cases h2 : c = ','
        · subst h2
          rw [step_comma, ih _ hl1 cs (Nat.le_refl _), split_comma]
          cases hs : splitUnescComma cs with
          | nil => exact absurd hs (splitUnescComma_ne_nil cs)
          | cons hd tl => simp [consHd]
        · rw [step_plain c h1 h2, ih _ hl1 cs (Nat.le_refl _), split_plain c cs h1 h2, consHd_consHd]

theorem split_on_unescaped_comma_eq (text : Str) : split_on_unescaped_comma text = splitUnescComma text := by
  have := split_loop text.length text (Nat.le_refl _) [] []
  simp only [splitFinish, List.nil_append] at this
  simp only [split_on_unescaped_comma]
  rw [this]
  cases hs : splitUnescComma text with
  | nil => exact absurd hs (splitUnescComma_ne_nil _)
  | cons hd tl => simp [consHd]

end ICal.Bodies
