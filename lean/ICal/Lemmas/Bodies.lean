/-
  Equality of the REGENERATED function bodies (ICal/Gen/Bodies.lean, written by tools/py2lean.py from
  the current source text on every run) with the hand-written model (ICal/Model/Codec.lean).

  Every theorem `<function>_eq` says: on the domain of the hand model, the translated body computes
  what the hand model computes.  All C03 theorems about `durTo`, `offTo`, `vDateTo`, `vDatetimeTo`,
  `vMonthTo`, `boolTo`, `intTo` are therefore theorems about what the code says now - not about a
  sample of its behaviour.  If a body changes its meaning these proofs stop checking.

  Correspondence of values:  `timedelta` (whole seconds) = `TD` in CPython's normal form (`TD.wf`)
  = the `Int` of seconds of the hand model through `TD.toSeconds` / `TD.ofSeconds` (inverse to each
  other, proved below);  `date` / `datetime` = the records `PyDate` / `PyDateTime` of ints, built
  from the model's `PDate` / `PDateTime` by `dateOf` / `dateTimeOf`.
-/
import ICal.Gen.Bodies
import ICal.Model.Codec
import ICal.Lemmas.BodiesRT
namespace ICal.Bodies
open ICal ICal.PyRT ICal.Gen.Bodies

theorem strInt_nat (n : Nat) : strInt (n : Int) = natToStr n := by
  have : ¬ ((n : Int) < 0) := by omega
  simp [strInt, intToStr, this]

theorem fmtZ_nat (w n : Nat) : fmtZ w (n : Int) = pad w n := by
  have : ¬ ((n : Int) < 0) := by omega
  simp [fmtZ, this]

theorem pyAbs_nat (n : Nat) : pyAbs (n : Int) = (n : Int) := by simp [pyAbs]

theorem floorDiv_3600 (n : Nat) : floorDiv (n : Int) 3600 = ((n / 3600 : Nat) : Int) := by simp [floorDiv]
theorem floorDiv_60 (n : Nat) : floorDiv (n : Int) 60 = ((n / 60 : Nat) : Int) := by simp [floorDiv]
theorem pyMod_3600 (n : Nat) : pyMod (n : Int) 3600 = ((n % 3600 : Nat) : Int) := by simp [pyMod]
theorem pyMod_60 (n : Nat) : pyMod (n : Int) 60 = ((n % 60 : Nat) : Int) := by simp [pyMod]

def dateOf (d : PDate) : PyDate := ⟨d.y, d.m, d.d⟩
def dateTimeOf (t : PDateTime) : PyDateTime := ⟨t.date.y, t.date.m, t.date.d, t.h, t.mi, t.s⟩
def UTC : Str := ['U', 'T', 'C']

theorem vDate_to_ical_eq (d : PDate) : vDate_to_ical (dateOf d) = vDateTo d := by
  simp [vDate_to_ical, dateOf, vDateTo, fmtZ_nat]

theorem vDatetime_to_ical_eq (t : PDateTime) (tzid : Option Str) (h : t.utc = (tzid == some UTC)) :
    vDatetime_to_ical (dateTimeOf t) tzid = vDatetimeTo t := by
  simp only [vDatetime_to_ical, dateTimeOf, vDatetimeTo, vDateTo, hmsTo, fmtZ_nat, h, UTC]
  cases (tzid == some ['U', 'T', 'C']) <;> simp

theorem vMonth_str_eq (n : Int) (leap : Bool) : vMonth_str n leap = vMonthTo n leap := by
  simp [vMonth_str, vMonthTo, strInt]

theorem vMonth_to_ical_eq (n : Int) (leap : Bool) : vMonth_to_ical n leap = vMonthTo n leap := by
  simp [vMonth_to_ical, vMonth_str_eq]

theorem vBoolean_to_ical_eq (n : Int) : vBoolean_to_ical n = boolTo (n != 0) := by
  simp [vBoolean_to_ical, boolTo, truthy]

theorem vInt_to_ical_eq (n : Int) : vInt_to_ical n = intTo n := by
  simp [vInt_to_ical, intTo, strInt]

/-- the normal form carries whole days out of the seconds: every constructor of a timedelta is
    `ofSeconds` of the total -/
theorem norm_eq_ofSeconds (d s : Int) : TD.norm d s = TD.ofSeconds (d * 86400 + s) := by
  unfold TD.ofSeconds TD.norm
  rw [Int.add_comm (d * 86400) s, Int.add_mul_ediv_right _ _ (by decide), Int.add_mul_emod_self_right,
    Int.zero_add, Int.add_comm]

theorem ofSeconds_wf (s : Int) : (TD.ofSeconds s).wf := by
  simp only [TD.ofSeconds, TD.norm, TD.wf]; omega

theorem toSeconds_ofSeconds (s : Int) : (TD.ofSeconds s).toSeconds = s := by
  simp only [TD.ofSeconds, TD.norm, TD.toSeconds]; omega

theorem ofSeconds_toSeconds (td : TD) (h : td.wf) : TD.ofSeconds td.toSeconds = td := by
  obtain ⟨D, S⟩ := td
  simp only [TD.wf] at h
  simp only [TD.ofSeconds, TD.norm, TD.toSeconds, TD.mk.injEq]
  constructor <;> omega

theorem neg_eq (td : TD) : TD.neg td = TD.ofSeconds (-td.toSeconds) := by
  rw [TD.neg, norm_eq_ofSeconds, TD.toSeconds]
  congr 1
  omega

theorem sub_eq (a b : TD) : TD.sub a b = TD.ofSeconds (a.toSeconds - b.toSeconds) := by
  rw [TD.sub, norm_eq_ofSeconds, TD.toSeconds, TD.toSeconds]
  congr 1
  omega

theorem neg_wf (td : TD) : (TD.neg td).wf := by rw [neg_eq]; exact ofSeconds_wf _

theorem toSeconds_neg (td : TD) : (TD.neg td).toSeconds = -td.toSeconds := by
  rw [neg_eq, toSeconds_ofSeconds]

theorem neg_ofSeconds (x : Int) : TD.neg (TD.ofSeconds x) = TD.ofSeconds (-x) := by
  rw [neg_eq, toSeconds_ofSeconds]

theorem sub_wf (a b : TD) : (TD.sub a b).wf := by rw [sub_eq]; exact ofSeconds_wf _

theorem toSeconds_sub (a b : TD) : (TD.sub a b).toSeconds = a.toSeconds - b.toSeconds := by
  rw [sub_eq, toSeconds_ofSeconds]

theorem lt_iff (a b : TD) (ha : a.wf) (hb : b.wf) : TD.lt a b = true ↔ a.toSeconds < b.toSeconds := by
  simp only [TD.wf] at ha hb
  simp only [TD.lt, TD.toSeconds, Bool.or_eq_true, Bool.and_eq_true, decide_eq_true_eq]
  omega

theorem le_iff (a b : TD) (ha : a.wf) (hb : b.wf) : TD.le a b = true ↔ a.toSeconds ≤ b.toSeconds := by
  simp only [TD.wf] at ha hb
  simp only [TD.le, TD.toSeconds, Bool.or_eq_true, Bool.and_eq_true, decide_eq_true_eq]
  omega

theorem td_sub_zero (td : TD) : TD.sub TD.zero td = TD.neg td := by
  simp [TD.sub, TD.neg, TD.zero]

theorem td_lt_zero (td : TD) : TD.lt td TD.zero = true ↔ td.days < 0 := by
  unfold TD.lt TD.zero
  simp

theorem toSeconds_neg_iff (td : TD) (h : td.wf) : td.toSeconds < 0 ↔ td.days < 0 := by
  simp only [TD.wf, TD.toSeconds] at *
  omega

/-- the normalised timedelta of `a ≥ 0` seconds -/
def absTD (a : Nat) : TD := ⟨((a / 86400 : Nat) : Int), a % 86400⟩

theorem absTD_eq (a : Nat) : absTD a = TD.ofSeconds a := by
  simp only [absTD, TD.ofSeconds, TD.norm, TD.mk.injEq]
  constructor <;> omega

/-- a timedelta in normal form is `a ≥ 0` seconds, or its negation is `a > 0` seconds -/
theorem td_cases (td : TD) (h : td.wf) : ∃ a : Nat, (td = absTD a ∧ td.toSeconds = a) ∨
    (td.days < 0 ∧ 0 ≤ (TD.neg td).days ∧ TD.neg td = absTD a ∧ td.toSeconds = -(a : Int) ∧ 0 < a) := by
  refine ⟨td.toSeconds.natAbs, ?_⟩
  by_cases hd : td.days < 0
  · have hs := (toSeconds_neg_iff td h).2 hd
    have e : TD.neg td = absTD td.toSeconds.natAbs := by
      rw [absTD_eq, neg_eq]; congr 1; omega
    exact Or.inr ⟨hd, by rw [e]; simp only [absTD]; omega, e, by omega, by omega⟩
  · have hs : ¬ td.toSeconds < 0 := fun x => hd ((toSeconds_neg_iff td h).1 x)
    refine Or.inl ⟨?_, by omega⟩
    rw [absTD_eq, Int.natAbs_of_nonneg (by omega), ofSeconds_toSeconds td h]

/-- `if c: t += x` appends `x` or nothing -/
theorem ite_append (c : Prop) [Decidable c] (t x : Str) : (if c then t ++ x else t) = t ++ (if c then x else []) := by
  split
  · rfl
  · rw [List.append_nil]

theorem vDuration_abs (a : Nat) : vDuration_to_ical (absTD a) = durBodyOf a := by
  -- the body statement by statement: its local assignments become hypotheses, so that no block is copied into
  -- the places where its result is used
  unfold vDuration_to_ical
  extract_lets sign td minus ntd m1 sign' td' tT hours minutes seconds tH m3 t3 tM m4 t4 tS m5 t5 m2 tp
  have hd : ¬ (((a / 86400 : Nat) : Int) < 0) := by omega
  have e1 : m1 = ([], absTD a) := by
    simp only [m1, td, sign, absTD, hd, decide_false, Bool.false_eq_true, if_false]
  have hsec : td'.secondsI = ((a % 86400 : Nat) : Int) := by simp only [td', e1, absTD, TD.secondsI]
  have hH : hours = ((a % 86400 / 3600 : Nat) : Int) := by simp only [hours, hsec, floorDiv_3600]
  have hM : minutes = ((a % 86400 % 3600 / 60 : Nat) : Int) := by simp only [minutes, hsec, pyMod_3600, floorDiv_60]
  have hS : seconds = ((a % 86400 % 60 : Nat) : Int) := by simp only [seconds, hsec, pyMod_60]
  have hT : tp = timepartOf (a % 86400) := by
    simp only [tp, m2, t5, m5, tS, t4, m4, tM, t3, m3, tH, tT, sign, ite_append, hsec, hH, hM, hS, truthy_nat,
      strInt_nat, decide_eq_true_eq, Bool.or_eq_true, Bool.and_eq_true, timepartOf, hmsText, ite_not,
      List.append_assoc, List.cons_append, List.nil_append]
  have hday : td'.days = ((a / 86400 : Nat) : Int) := by simp only [td', e1, absTD]
  have hsg : sign' = [] := by simp only [sign', e1]
  rw [hT, hday, hsg, durBodyOf]
  generalize timepartOf (a % 86400) = T
  simp only [truthy_str, pyAbs_nat, strInt_nat, Bool.and_eq_true, beq_iff_eq, Int.natCast_eq_zero,
    Bool.not_eq_true', List.isEmpty_eq_false_iff, ne_eq, List.append_assoc, List.cons_append, List.nil_append]

/-- a negative timedelta is encoded as `-` followed by the encoding of `-td` -/
theorem vDuration_neg (td : TD) (hd : td.days < 0) (hn : 0 ≤ (TD.neg td).days) :
    vDuration_to_ical td = '-' :: vDuration_to_ical (TD.neg td) := by
  have hn' : ¬ ((TD.neg td).days < 0) := by omega
  simp only [vDuration_to_ical, hd, hn', decide_true, decide_false, if_true, Bool.false_eq_true, if_false]
  simp only [apply_ite (List.cons '-'), List.nil_append, List.cons_append, List.append_assoc]

theorem vDuration_to_ical_eq (td : TD) (h : td.wf) : vDuration_to_ical td = durTo td.toSeconds := by
  obtain ⟨a, ⟨e, hs⟩ | ⟨hd, hn, e, hs, ha⟩⟩ := td_cases td h
  · rw [hs, e, vDuration_abs]
    simp [durTo]
  · rw [hs, vDuration_neg td hd hn, e, vDuration_abs]
    simp [durTo, ha]

theorem td_lt_zero_false (td : TD) (h : 0 ≤ td.days) : TD.lt td TD.zero = false := by
  have := td_lt_zero td
  cases hb : TD.lt td TD.zero
  · rfl
  · have := this.1 hb; omega

theorem vUTCOffset_abs (a : Nat) : vUTCOffset_to_ical (absTD a) = offTo (a : Int) := by
  have hl : TD.lt (absTD a) TD.zero = false := td_lt_zero_false _ (by simp only [absTD]; omega)
  have e1 : ((a / 86400 : Nat) : Int) * 24 + ((a % 86400 / 3600 : Nat) : Int) = ((a / 3600 : Nat) : Int) := by omega
  have e2 : a % 86400 % 3600 / 60 = a % 3600 / 60 := by omega
  have e3 : a % 86400 % 60 = a % 60 := by omega
  have hs : ¬ ((a : Int) < 0) := by omega
  simp only [vUTCOffset_to_ical, hl, Bool.false_eq_true, if_false]
  simp only [absTD, TD.secondsI, floorDiv_3600, floorDiv_60, pyMod_3600, pyMod_60, e1, e2, e3, pyAbs_nat,
    fmtZ_nat, truthy_nat, offTo, Int.natAbs_natCast, hs]
  by_cases h : a % 60 = 0 <;> simp [h, fmt1]

theorem vUTCOffset_neg (td : TD) (hd : td.days < 0) (hn : 0 ≤ (TD.neg td).days) :
    vUTCOffset_to_ical td = '-' :: (vUTCOffset_to_ical (TD.neg td)).tail := by
  have h1 : TD.lt td TD.zero = true := (td_lt_zero td).2 hd
  have h2 : TD.lt (TD.neg td) TD.zero = false := td_lt_zero_false _ hn
  simp only [vUTCOffset_to_ical, h1, h2, if_true, Bool.false_eq_true, if_false, td_sub_zero]
  simp [fmt1]

theorem offTo_neg (a : Nat) (h : 0 < a) : offTo (-(a : Int)) = '-' :: (offTo (a : Int)).tail := by
  have h2 : ¬ ((a : Int) < 0) := by omega
  have h3 : a ≠ 0 := by omega
  simp [offTo, h2, h3]

theorem vUTCOffset_to_ical_eq (td : TD) (h : td.wf) : vUTCOffset_to_ical td = offTo td.toSeconds := by
  obtain ⟨a, ⟨e, hs⟩ | ⟨hd, hn, e, hs, ha⟩⟩ := td_cases td h
  · rw [hs, e, vUTCOffset_abs]
  · rw [hs, vUTCOffset_neg td hd hn, e, vUTCOffset_abs, offTo_neg a ha]

theorem vDuration_of_seconds (s : Int) : vDuration_to_ical (TD.ofSeconds s) = durTo s := by
  rw [vDuration_to_ical_eq _ (ofSeconds_wf s), toSeconds_ofSeconds]

theorem vUTCOffset_of_seconds (s : Int) : vUTCOffset_to_ical (TD.ofSeconds s) = offTo s := by
  rw [vUTCOffset_to_ical_eq _ (ofSeconds_wf s), toSeconds_ofSeconds]

end ICal.Bodies
