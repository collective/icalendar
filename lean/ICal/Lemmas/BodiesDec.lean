/-
  Equality of the REGENERATED decoder bodies (ICal/Gen/BodiesDec.lean, written by tools/py2lean.py
  from the current source text of the `from_ical` methods on every run) with the hand-written
  decoders of ICal/Model/Codec.lean.

  Results: the translated code answers `Py T = Except Exc T`, the hand model `CRes V`; `liftRes f`
  carries a model result over (`ok v` to `ok (f v)`, ValueError to ValueError).  Values: a `date` is
  `dateOf d`, a `time` is `timeOf t`, a `datetime` is `dateTimeOf p`, a `timedelta` is
  `TD.ofSeconds s` for the model's `Int` seconds.
  External code is a parameter on both sides:
    * `vDatetime.from_ical` (specialised to `timezone=None`): the function `tzp.localize_utc`; the
      model's `utc` flag says that it was applied to the naive datetime;
    * `vDuration.from_ical`: the match object of `DURATION_REGEX.match(t)`; `durGroups`
      (ICal/Model/PyRTDec.lean) is the hand model of the regex returning the group texts, and
      `vDuration_from_ical_eq` composes the two.
-/
import ICal.Gen.BodiesDec
import ICal.Lemmas.Bodies
import ICal.Lemmas.Codec
namespace ICal.Bodies
open ICal ICal.PyRT ICal.Gen.BodiesDec

def liftRes {α β : Type} (f : α → β) : CRes α → Py β
  | .ok v => .ok (f v)
  | .error .valueError => .error .valueError
  | .error .indexError => .error .indexError

def timeOf (t : PTime) : PyTime := ⟨t.h, t.mi, t.s⟩

theorem pySlice_eq (s : Str) (a b : Nat) : pySlice s a b = slice s a b := rfl

theorem intOfStr_eq (s : Str) : intOfStr s = liftRes id (pyIntE s) := by
  unfold intOfStr pyIntE; cases pyInt s <;> rfl

theorem mkPyDate_eq (y m d : Int) : mkPyDate y m d = liftRes dateOf (mkDate y m d) := by
  unfold mkPyDate mkDate
  split
  · rename_i h
    obtain ⟨h1, h2, h3, _⟩ := h
    simp only [liftRes, dateOf]
    congr 2 <;> omega
  · rfl

theorem mkDate_not_index (y m d : Int) : mkDate y m d ≠ .error .indexError := by
  unfold mkDate; split <;> simp

/-- one `int()` of a decoder: under `except Exception` the translated code follows the model's bind -/
theorem remapAll_int {β γ : Type} (s : Str) (f : Int → Py β) (g : Int → CRes γ) (h : γ → β)
    (hf : ∀ z, remapAll (f z) = liftRes h (g z)) :
    remapAll (intOfStr s >>= f) = liftRes h (pyIntE s >>= g) := by
  unfold intOfStr pyIntE
  cases pyInt s with
  | none => rfl
  | some z => exact hf z

theorem vDate_from_ical_eq (t : Str) : vDate_from_ical t = liftRes dateOf (vDateFrom t) := by
  unfold vDate_from_ical vDateFrom
  refine remapAll_int _ _ _ _ fun y => remapAll_int _ _ _ _ fun m => remapAll_int _ _ _ _ fun d => ?_
  rw [mkPyDate_eq]
  cases h : mkDate y m d with
  | ok v => rfl
  | error e => cases e with
    | valueError => rfl
    | indexError => exact absurd h (mkDate_not_index y m d)

theorem mkPyTime_eq (h m s : Int) :
    mkPyTime h m s = if okTime h m s then .ok (timeOf ⟨h.toNat, m.toNat, s.toNat, false⟩) else .error .valueError := by
  unfold mkPyTime
  split
  · rename_i hk
    simp only [okTime, Bool.and_eq_true, decide_eq_true_eq] at hk
    obtain ⟨⟨⟨h1, h2⟩, h3⟩, _⟩ := hk
    simp only [timeOf]
    congr 2 <;> omega
  · rfl

theorem vTime_from_ical_eq (t : Str) : vTime_from_ical t = liftRes timeOf (vTimeFrom t) := by
  unfold vTime_from_ical vTimeFrom
  refine remapAll_int _ _ _ _ fun h => remapAll_int _ _ _ _ fun m => remapAll_int _ _ _ _ fun s => ?_
  rw [mkPyTime_eq]
  cases okTime h m s <;> rfl

theorem mkPyDateTime_eq (y m d h mi s : Int) :
    mkPyDateTime y m d h mi s =
      (match mkDate y m d with
       | .ok date => if okTime h mi s then .ok (dateTimeOf ⟨date, h.toNat, mi.toNat, s.toNat, false⟩)
                     else .error .valueError
       | .error _ => .error .valueError) := by
  unfold mkPyDateTime mkDate
  split
  · rename_i hv
    obtain ⟨h1, h2, h3, _⟩ := hv
    simp only []
    split
    · rename_i hk
      simp only [okTime, Bool.and_eq_true, decide_eq_true_eq] at hk
      obtain ⟨⟨⟨k1, k2⟩, k3⟩, _⟩ := hk
      simp only [dateTimeOf]
      congr 2 <;> omega
    · rfl
  · rfl

/-- `vDatetime.from_ical(t)` (timezone=None): the model's `utc` flag says that `tzp.localize_utc`
    (a parameter) was applied to the naive datetime -/
theorem vDatetime_from_ical_eq (t : Str) (lu : PyDateTime → PyDateTime) :
    vDatetime_from_ical t lu =
      liftRes (fun p => if p.utc then lu (dateTimeOf { p with utc := false }) else dateTimeOf p) (vDatetimeFrom t) := by
  unfold vDatetime_from_ical vDatetimeFrom
  refine remapAll_int _ _ _ _ fun y => remapAll_int _ _ _ _ fun m => remapAll_int _ _ _ _ fun d =>
    remapAll_int _ _ _ _ fun h => remapAll_int _ _ _ _ fun mi => remapAll_int _ _ _ _ fun s => ?_
  have s15 : pySliceFrom t 15 = t.drop 15 := rfl
  have eE : (List.drop 15 t).isEmpty = decide (t.length ≤ 15) := by
    by_cases hE : t.length ≤ 15 <;> simp [hE]
  simp only [mkPyDateTime_eq, s15, pySlice_eq, truthy]
  have hni := mkDate_not_index y m d
  -- both sides are now a table over: the date exists, the time is in range, there is a 16th character, it is `Z`;
  -- each cell holds by computation
  cases hd : mkDate y m d with
  | error e =>
    cases e with
    | indexError => exact absurd hd hni
    | valueError =>
      by_cases hE : t.length ≤ 15 <;> by_cases hZ : slice t 15 16 = ['Z'] <;>
        simp [eE, hE, hZ, remapAll, liftRes, throw_eq, bind, Except.bind]
  | ok date =>
    cases hk : okTime h mi s <;> by_cases hE : t.length ≤ 15 <;> by_cases hZ : slice t 15 16 = ['Z'] <;>
      simp [eE, hE, hZ, remapAll, liftRes, pure, Except.pure, throw_eq, dateTimeOf, bind, Except.bind]

theorem intOfStrOr_zero (s : Str) :
    intOfStrOr s 0 = liftRes id (if s.isEmpty then (pure 0 : CRes Int) else pyIntE s) := by
  unfold intOfStrOr
  cases hs : s.isEmpty <;> simp [Truthy.truthy, hs, intOfStr_eq, liftRes, pure, Except.pure]

theorem ofUnits_hms (h m s : Int) : TD.ofUnits 0 0 h m s = TD.ofSeconds (h * 3600 + m * 60 + s) := by
  simp [TD.ofUnits, TD.ofSeconds]

theorem day_le_ofSeconds (x : Int) : TD.le (TD.ofSeconds 86400) (TD.ofSeconds x) = decide (x ≥ 86400) := by
  have := le_iff (TD.ofSeconds 86400) (TD.ofSeconds x) (ofSeconds_wf _) (ofSeconds_wf _)
  rw [toSeconds_ofSeconds, toSeconds_ofSeconds] at this
  by_cases hx : x ≥ 86400
  · simp only [hx, decide_true]; exact this.2 hx
  · simp only [hx, decide_false]
    cases hb : TD.le (TD.ofSeconds 86400) (TD.ofSeconds x)
    · rfl
    · exact absurd (this.1 hb) hx

theorem vUTCOffset_from_ical_eq (t : Str) : vUTCOffset_from_ical t = liftRes TD.ofSeconds (offFrom t) := by
  simp only [vUTCOffset_from_ical, offFrom, pySlice_eq, intOfStr, pyIntE, intOfStrOr_zero, ofUnits_hms,
    show ((24 : Int) * 3600 + 0 * 60 + 0) = 86400 by decide]
  cases pyInt (slice t 1 3) <;> cases pyInt (slice t 3 5) <;>
    simp only [remapAll, liftRes, bind, Except.bind]
  rename_i h m
  -- what follows the reading of the three fields, for any seconds: used at `0` (no seconds field) and at the parsed value
  have fin : ∀ sec : Int,
      (if decide (h * 3600 + m * 60 + sec ≥ 86400) = true then (throw Exc.valueError : Py TD)
        else if (slice t 0 1 == ['-']) = true then pure (TD.neg (TD.ofSeconds (h * 3600 + m * 60 + sec)))
        else pure (TD.ofSeconds (h * 3600 + m * 60 + sec))) =
      liftRes TD.ofSeconds (if h * 3600 + m * 60 + sec ≥ 86400 then .error .valueError
        else if slice t 0 1 = ['-'] then .ok (-(h * 3600 + m * 60 + sec)) else .ok (h * 3600 + m * 60 + sec)) := by
    intro sec
    by_cases hx : h * 3600 + m * 60 + sec ≥ 86400 <;> by_cases hg : slice t 0 1 = ['-'] <;>
      simp [liftRes, hx, hg, throw_eq, pure, Except.pure, neg_ofSeconds]
  by_cases hs : (slice t 5 7).isEmpty = true
  · simp only [hs, if_true, pure, Except.pure, id]
    simpa [liftRes, pure, Except.pure, throw_eq, day_le_ofSeconds] using fin 0
  · cases pyInt (slice t 5 7) with
    | none => simp [hs]
    | some sec =>
      simp only [hs, id]
      simpa [liftRes, pure, Except.pure, throw_eq, day_le_ofSeconds] using fin sec

theorem vInt_from_ical_eq (t : Str) : vInt_from_ical t = liftRes id (intFrom t) := by
  simp only [vInt_from_ical, intFrom, intOfStr, pyIntE]
  cases pyInt t <;> simp [remapAll, liftRes]

theorem spanDigits_fst_digits (l : Str) : ∀ c ∈ (spanDigits l).1, isDigit c = true := by
  induction l with
  | nil => simp [spanDigits]
  | cons a as ih =>
    unfold spanDigits
    by_cases ha : isDigit a = true
    · simp only [ha, if_true]
      intro c hc
      simp only [List.mem_cons] at hc
      rcases hc with rfl | hc
      · exact ha
      · exact ih c hc
    · simp [ha]

theorem optUnitS_spec (u : Char) (l : Str) :
    (optUnitS u l).2 = (optUnit u l).2 ∧ intOfOptStrOr (optUnitS u l).1 0 = .ok ((optUnit u l).1 : Int) := by
  have hd := spanDigits_fst_digits l
  unfold optUnitS optUnit
  generalize spanDigits l = r at hd
  obtain ⟨ds, rest⟩ := r
  cases ds with
  | nil => simp [intOfOptStrOr]
  | cons c cs =>
    cases rest with
    | nil => simp [intOfOptStrOr]
    | cons x xs =>
      by_cases hx : x = u
      · have hp := Codec.pyInt_digits (c :: cs) hd (by simp)
        simp [hx, intOfOptStrOr, intOfStrOr, Truthy.truthy, intOfStr, hp]
      · simp [hx, intOfOptStrOr]

theorem intOfOptStrOr_none (k : Int) : intOfOptStrOr none k = .ok k := rfl

theorem ofUnits_eq (w d h m s : Int) :
    TD.ofUnits w d h m s = TD.ofSeconds (w * 604800 + d * 86400 + h * 3600 + m * 60 + s) := by
  rw [TD.ofUnits, norm_eq_ofSeconds]
  congr 1
  omega

theorem parseTS_spec (r : Str) :
    (parseTS r).2.2.2 = (parseT r).2.2.2 ∧
    intOfOptStrOr (parseTS r).1 0 = .ok ((parseT r).1 : Int) ∧
    intOfOptStrOr (parseTS r).2.1 0 = .ok ((parseT r).2.1 : Int) ∧
    intOfOptStrOr (parseTS r).2.2.1 0 = .ok ((parseT r).2.2.1 : Int) := by
  by_cases hT : ∃ l, r = 'T' :: l
  · obtain ⟨l, rfl⟩ := hT
    obtain ⟨h2, hv⟩ := optUnitS_spec 'H' l
    obtain ⟨m2, mv⟩ := optUnitS_spec 'M' (optUnit 'H' l).2
    obtain ⟨s2, sv⟩ := optUnitS_spec 'S' (optUnit 'M' (optUnit 'H' l).2).2
    simp only [parseTS, parseT, h2, m2]
    exact ⟨s2, hv, mv, sv⟩
  · have e1 : parseTS r = (none, none, none, r) := by
      unfold parseTS; split
      · exact absurd ⟨_, rfl⟩ hT
      · rfl
    have e2 : parseT r = (0, 0, 0, r) := by
      unfold parseT; split
      · exact absurd ⟨_, rfl⟩ hT
      · rfl
    rw [e1, e2]
    exact ⟨rfl, rfl, rfl, rfl⟩

theorem durBody_spec (r : Str) :
    (durBodyGroups r).isSome = (parseDurBody r).isSome ∧
    ∀ g v, durBodyGroups r = some g → parseDurBody r = some v →
      ∃ a b c d e : Nat, intOfOptStrOr g.1 0 = .ok (a : Int) ∧ intOfOptStrOr g.2.1 0 = .ok (b : Int) ∧
        intOfOptStrOr g.2.2.1 0 = .ok (c : Int) ∧ intOfOptStrOr g.2.2.2.1 0 = .ok (d : Int) ∧
        intOfOptStrOr g.2.2.2.2 0 = .ok (e : Int) ∧ a * 604800 + b * 86400 + c * 3600 + d * 60 + e = v := by
  by_cases hP : ∃ l, r = 'P' :: l
  · obtain ⟨l, rfl⟩ := hP
    obtain ⟨w2, wv⟩ := optUnitS_spec 'W' l
    obtain ⟨d2, dv⟩ := optUnitS_spec 'D' (optUnit 'W' l).2
    obtain ⟨t2, hv, mv, sv⟩ := parseTS_spec (optUnit 'D' (optUnit 'W' l).2).2
    simp only [durBodyGroups, parseDurBody, w2, d2, t2]
    split
    · refine ⟨rfl, ?_⟩
      intro g v hg hv'
      cases hg; cases hv'
      exact ⟨_, _, _, _, _, wv, dv, hv, mv, sv, rfl⟩
    · exact ⟨rfl, fun g v hg => by cases hg⟩
  · have e1 : durBodyGroups r = none := by
      unfold durBodyGroups; split
      · exact absurd ⟨_, rfl⟩ hP
      · rfl
    have e2 : parseDurBody r = none := by
      unfold parseDurBody; split
      · exact absurd ⟨_, rfl⟩ hP
      · rfl
    rw [e1, e2]
    exact ⟨rfl, fun g v hg => by cases hg⟩

theorem vDuration_none (t : Str) : vDuration_from_ical t none = .error .valueError := by
  simp [vDuration_from_ical, throw_eq]

theorem vDuration_some (t : Str) (sg : Option Str)
    (g : Option Str × Option Str × Option Str × Option Str × Option Str) {a b c d e : Int}
    (h1 : intOfOptStrOr g.1 0 = .ok a) (h2 : intOfOptStrOr g.2.1 0 = .ok b) (h3 : intOfOptStrOr g.2.2.1 0 = .ok c)
    (h4 : intOfOptStrOr g.2.2.2.1 0 = .ok d) (h5 : intOfOptStrOr g.2.2.2.2 0 = .ok e) :
    vDuration_from_ical t (some (sg, g)) =
      .ok (if sg == some ['-'] then TD.neg (TD.ofUnits a b c d e) else TD.ofUnits a b c d e) := by
  simp only [vDuration_from_ical, Option.isSome_some, Bool.not_true, Bool.false_eq_true, if_false, groupsOf, h1, h2, h3,
    h4, h5, bind, Except.bind, pure, Except.pure]
  cases sg == some ['-'] <;> simp [remap]

/-- the sign character, the body groups and the body value fit together -/
theorem dur_sign_cases (t : Str) :
    ∃ (sg : Str) (r : Str) (neg : Bool), (neg = true ↔ sg = ['-']) ∧
      durGroups t = (durBodyGroups r).map (fun g => (some sg, g)) ∧
      durFrom t = (parseDurBody r).map (fun (v : Nat) => if neg then -(Int.ofNat v) else Int.ofNat v) := by
  unfold durGroups durFrom
  split
  · exact ⟨['-'], _, true, by simp, rfl, rfl⟩
  · exact ⟨['+'], _, false, by simp, rfl, rfl⟩
  · next h1 h2 =>
    refine ⟨[], t, false, by simp, rfl, ?_⟩
    split
    · exact absurd rfl (h1 _)
    · exact absurd rfl (h2 _)
    · rfl

/-- `vDuration.from_ical(t)` with the match object that `DURATION_REGEX.match(t)` gives (`durGroups`) -/
theorem vDuration_from_ical_eq (t : Str) :
    vDuration_from_ical t (durGroups t) = liftRes TD.ofSeconds (durFromE t) := by
  obtain ⟨sg, r, neg, hneg, hg, hf⟩ := dur_sign_cases t
  obtain ⟨hsome, hval⟩ := durBody_spec r
  unfold durFromE
  rw [hg, hf]
  cases hb : durBodyGroups r with
  | none =>
    have : parseDurBody r = none := Option.not_isSome_iff_eq_none.1 (by rw [← hsome, hb]; decide)
    simp [this, vDuration_none, liftRes]
  | some g =>
    obtain ⟨v, hv⟩ := Option.isSome_iff_exists.1 (by rw [← hsome, hb]; rfl : (parseDurBody r).isSome = true)
    obtain ⟨a, b, c, d, e, h1, h2, h3, h4, h5, hsum⟩ := hval g v hb hv
    have hc : (a : Int) * 604800 + b * 86400 + c * 3600 + d * 60 + e = (v : Int) := by
      rw [← hsum, Int.natCast_add, Int.natCast_add, Int.natCast_add, Int.natCast_add, Int.natCast_mul,
        Int.natCast_mul, Int.natCast_mul, Int.natCast_mul]
      rfl
    simp only [Option.map_some, hv]
    rw [vDuration_some t (some sg) g h1 h2 h3 h4 h5, ofUnits_eq, hc]
    cases neg
    · have : sg ≠ ['-'] := fun e => by simpa using hneg.2 e
      simp [liftRes, this]
    · have : sg = ['-'] := hneg.1 rfl
      simp [liftRes, this, neg_ofSeconds]

end ICal.Bodies
