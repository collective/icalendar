/-
  Facts about the Python `str` operations of Model/PyStr alone: `replace` with a pattern of one or two characters
  (`rep1`, `rep2`), with a pattern that does not occur, `join`, ASCII upper-casing, the code-point order.
-/
import ICal.Model.PyStr
namespace ICal

section rep1

theorem replaceAll_go1 (a : Char) (r : Str) : ∀ (fuel : Nat) (s : Str), s.length ≤ fuel →
    replaceAll.go [a] r [] fuel s = rep1 a r s := by
  intro fuel
  induction fuel with
  | zero => intro s h; cases s with
    | nil => simp [replaceAll.go, rep1]
    | cons c cs => simp at h
  | succ n ih =>
    intro s h
    cases s with
    | nil => simp [replaceAll.go, rep1]
    | cons c cs =>
      have hl : cs.length ≤ n := by simpa using h
      simp only [replaceAll.go, rep1, startsWith, List.length_nil, List.drop_zero]
      by_cases hc : c = a
      · subst hc; simp [ih cs hl]
      · simp [hc, ih cs hl]

theorem replaceAll_one (a : Char) (r s : Str) : replaceAll [a] r s = rep1 a r s := by
  unfold replaceAll
  exact replaceAll_go1 a r s.length s (Nat.le_refl _)

theorem rep1_flatMap (a : Char) (r s : Str) :
    rep1 a r s = s.flatMap (fun c => if c = a then r else [c]) := by
  induction s with
  | nil => simp [rep1]
  | cons c cs ih => simp only [rep1, List.flatMap_cons]; split <;> simp [ih]

theorem rep1_append (a : Char) (r x y : Str) : rep1 a r (x ++ y) = rep1 a r x ++ rep1 a r y := by
  simp [rep1_flatMap]

theorem rep1_of_not_mem (a : Char) (r : Str) : ∀ (v : Str), a ∉ v → rep1 a r v = v := by
  intro v
  induction v with
  | nil => intro _; rfl
  | cons c cs ih =>
    intro h
    rw [rep1, if_neg (List.ne_of_not_mem_cons h).symm, ih (List.not_mem_of_not_mem_cons h)]

theorem mem_rep1_of_ne (a : Char) (r : Str) (c : Char) (hc : c ≠ a) (v : Str) (h : c ∈ v) : c ∈ rep1 a r v := by
  rw [rep1_flatMap, List.mem_flatMap]
  exact ⟨c, h, by simp [hc]⟩

theorem not_mem_rep1_self (a : Char) (r : Str) (hr : a ∉ r) (v : Str) : a ∉ rep1 a r v := by
  rw [rep1_flatMap, List.mem_flatMap]
  rintro ⟨d, _, hd⟩
  split at hd
  · exact hr hd
  · next hne => exact hne (List.mem_singleton.mp hd).symm

end rep1

section rep2

theorem replaceAll_go2 (a b : Char) (r : Str) (s : Str) : ∀ (fuel : Nat), s.length ≤ fuel →
    replaceAll.go [a, b] r [b] fuel s = rep2 a b r s := by
  induction s using rep2.induct a b with
  | case1 => intro fuel _; cases fuel <;> rfl
  | case2 c =>
    intro fuel h
    cases fuel with
    | zero => simp at h
    | succ n => cases n <;> simp [replaceAll.go, startsWith, rep2]
  | case3 c d cs hm ih =>
    intro fuel h
    cases fuel with
    | zero => simp at h
    | succ n =>
      simp only [replaceAll.go, startsWith, rep2, hm, and_self, beq_self_eq_true, Bool.and_self, if_true,
        List.length_singleton, List.drop_succ_cons, List.drop_zero]
      rw [ih n (by simp at h; omega)]
  | case4 c d cs hm ih =>
    intro fuel h
    cases fuel with
    | zero => simp at h
    | succ n =>
      have : (c == a && (d == b && true)) = false := by
        rw [Bool.and_true, ← Bool.not_eq_true, Bool.and_eq_true, beq_iff_eq, beq_iff_eq]; exact hm
      simp only [replaceAll.go, startsWith, rep2, hm, this, Bool.false_eq_true, if_false]
      rw [ih n (by simp at h; omega)]

theorem replaceAll_two (a b : Char) (r s : Str) : replaceAll [a, b] r s = rep2 a b r s := by
  unfold replaceAll
  exact replaceAll_go2 a b r s s.length (Nat.le_refl _)

theorem rep2_cons_ne (a b c : Char) (r l : Str) (h : c ≠ a) :
    rep2 a b r (c :: l) = c :: rep2 a b r l := by
  cases l with
  | nil => simp [rep2]
  | cons d ds => simp [rep2, h]

theorem rep2_cons_a (a b : Char) (r l : Str) (h : l.head? ≠ some b) :
    rep2 a b r (a :: l) = a :: rep2 a b r l := by
  cases l with
  | nil => simp [rep2]
  | cons d ds =>
    have : d ≠ b := by simpa using h
    simp [rep2, this]

theorem rep2_ne_nil (a b : Char) (r : Str) (hr : r ≠ []) : ∀ (s : Str), s ≠ [] → rep2 a b r s ≠ [] := by
  intro s hs
  match s, hs with
  | [c], _ => simp [rep2]
  | c :: d :: cs, _ =>
    simp only [rep2]
    split <;> simp [hr]

theorem rep2_append (a b : Char) (r : Str) (t : Str) : ∀ (s : Str), s.getLast? ≠ some a →
    rep2 a b r (s ++ t) = rep2 a b r s ++ rep2 a b r t := by
  intro s
  induction s using rep2.induct a b with
  | case1 => intro _; rfl
  | case2 c =>
    intro h
    have hc : c ≠ a := by simpa using h
    simp [rep2, rep2_cons_ne a b c r t hc]
  | case3 c d cs hm ih =>
    intro h
    have : cs.getLast? ≠ some a := by
      cases cs with
      | nil => simp
      | cons e es => simpa [List.getLast?_cons_cons] using h
    simp only [List.cons_append, rep2, hm, and_self, if_true, ih this, List.append_assoc]
  | case4 c d cs hm ih =>
    intro h
    have : (d :: cs).getLast? ≠ some a := by rwa [List.getLast?_cons_cons] at h
    have ih' := ih this
    simp only [List.cons_append] at ih' ⊢
    simp only [rep2, hm, if_false, ih', List.cons_append]

theorem rep2_append_neutral (a b : Char) (r : Str) (c : Char) (hca : c ≠ a) (hcb : c ≠ b) (t : Str) :
    ∀ (s : Str), rep2 a b r (s ++ c :: t) = rep2 a b r s ++ c :: rep2 a b r t := by
  intro s
  induction s using rep2.induct a b with
  | case1 => simp [rep2, rep2_cons_ne a b c r t hca]
  | case2 e =>
    have : ¬ (e = a ∧ c = b) := fun h => hcb h.2
    simp [rep2, this, rep2_cons_ne a b c r t hca]
  | case3 e d cs hm ih => simp only [List.cons_append, rep2, hm, and_self, if_true, ih, List.append_assoc]
  | case4 e d cs hm ih =>
    simp only [List.cons_append] at ih ⊢
    simp only [rep2, hm, if_false, ih, List.cons_append]

theorem mem_rep2 (a b : Char) (r : Str) (c : Char) : ∀ (s : Str), c ∈ rep2 a b r s → c ∈ r ∨ c ∈ s := by
  intro s
  induction s using rep2.induct a b with
  | case1 => intro h; exact Or.inr h
  | case2 e => intro h; exact Or.inr h
  | case3 e d cs hm ih =>
    intro h
    simp only [rep2, hm, and_self, if_true, List.mem_append] at h
    rcases h with h | h
    · exact Or.inl h
    · rcases ih h with h' | h'
      · exact Or.inl h'
      · exact Or.inr (List.mem_cons_of_mem _ (List.mem_cons_of_mem _ h'))
  | case4 e d cs hm ih =>
    intro h
    simp only [rep2, hm, if_false, List.mem_cons] at h
    rcases h with h | h
    · exact Or.inr (by simp [h])
    · rcases ih h with h' | h'
      · exact Or.inl h'
      · exact Or.inr (List.mem_cons_of_mem _ h')

def noPair (a b : Char) : Str → Bool
  | [] => true
  | [_] => true
  | c :: d :: cs => !(c = a ∧ d = b) && noPair a b (d :: cs)

theorem rep2_noPair (a b : Char) (r : Str) (t : Str) (h : noPair a b t = true) : rep2 a b r t = t := by
  fun_induction noPair a b t with
  | case1 => simp [rep2]
  | case2 c => simp [rep2]
  | case3 c d cs ih =>
    simp only [Bool.and_eq_true, Bool.not_eq_true', decide_eq_false_iff_not] at h
    simp [rep2, h.1, ih h.2]

theorem noPair_of_not_mem (a b : Char) (t : Str) (h : a ∉ t) : noPair a b t = true := by
  fun_induction noPair a b t with
  | case1 => rfl
  | case2 c => rfl
  | case3 c d cs ih =>
    have hc : c ≠ a := fun e => h (by simp [e])
    simp [hc, ih fun hm => h (List.mem_cons_of_mem _ hm)]

end rep2

section occurs

/-- `pat in s` for a non-empty pattern -/
def occurs (pat : Str) : Str → Bool
  | [] => false
  | c :: cs => startsWith (c :: cs) pat || occurs pat cs

theorem startsWith_iff_prefix : ∀ (s p : Str), startsWith s p = true ↔ p <+: s := by
  intro s
  induction s with
  | nil =>
    intro p
    cases p with
    | nil => simp [startsWith]
    | cons a as => simp [startsWith]
  | cons c cs ih =>
    intro p
    cases p with
    | nil => simp [startsWith]
    | cons a as =>
      simp only [startsWith, Bool.and_eq_true, beq_iff_eq, ih as, List.cons_prefix_cons]
      constructor
      · rintro ⟨rfl, h⟩; exact ⟨rfl, h⟩
      · rintro ⟨rfl, h⟩; exact ⟨rfl, h⟩

theorem occurs_iff_infix (pat : Str) (hp : pat ≠ []) : ∀ (s : Str), occurs pat s = true ↔ pat <:+: s := by
  intro s
  induction s with
  | nil => simp [occurs, hp]
  | cons c cs ih =>
    simp only [occurs, Bool.or_eq_true, ih, startsWith_iff_prefix, List.infix_cons_iff]

theorem replaceAll_go_id (pat rep ptl : Str) : ∀ (fuel : Nat) (s : Str), occurs pat s = false →
    replaceAll.go pat rep ptl fuel s = s := by
  intro fuel
  induction fuel with
  | zero => intro s _; cases s <;> simp [replaceAll.go]
  | succ n ih =>
    intro s h
    cases s with
    | nil => simp [replaceAll.go]
    | cons c cs =>
      simp only [occurs, Bool.or_eq_false_iff] at h
      simp only [replaceAll.go, h.1, Bool.false_eq_true, if_false, ih cs h.2]

theorem replaceAll_id (pat rep s : Str) (h : occurs pat s = false) : replaceAll pat rep s = s := by
  unfold replaceAll
  cases pat with
  | nil => rfl
  | cons p ptl => exact replaceAll_go_id _ rep ptl s.length s h

theorem applyChain_id : ∀ (chain : List (Str × Str)) (s : Str),
    (∀ pr ∈ chain, occurs pr.1 s = false) → applyChain chain s = s := by
  intro chain
  induction chain with
  | nil => intro s _; rfl
  | cons pr r ih =>
    intro s h
    have h1 : replaceAll pr.1 pr.2 s = s := replaceAll_id _ _ _ (h pr (by simp))
    have : applyChain (pr :: r) s = applyChain r (replaceAll pr.1 pr.2 s) := rfl
    rw [this, h1]
    exact ih s (fun q hq => h q (List.mem_cons_of_mem _ hq))

theorem occurs_false_of_head (p : Char) (ps : Str) : ∀ (s : Str), p ∉ s → occurs (p :: ps) s = false := by
  intro s
  induction s with
  | nil => intro _; rfl
  | cons c cs ih =>
    intro h
    simp [occurs, startsWith, (List.ne_of_not_mem_cons h).symm, ih (List.not_mem_of_not_mem_cons h)]

end occurs

section joinWith

theorem joinWith_eq_nil (sep : Char) : ∀ (segs : List Str), joinWith [sep] segs = [] → segs = [] ∨ segs = [[]] := by
  intro segs h
  match segs, h with
  | [], _ => exact Or.inl rfl
  | [x], h => simp [joinWith] at h; simp [h]
  | x :: y :: r, h => simp [joinWith] at h

theorem joinWith_ne_nil (sep : Str) (x : Str) (r : List Str) (hx : x ≠ []) : joinWith sep (x :: r) ≠ [] := by
  cases r with
  | nil => simpa [joinWith] using hx
  | cons y r' => simp [joinWith, hx]

theorem joinWith_ind (Q : Str → Prop) (hnil : Q []) (happ : ∀ a b, Q a → Q b → Q (a ++ b))
    (sep : Str) (hsep : Q sep) : ∀ (l : List Str), (∀ x ∈ l, Q x) → Q (joinWith sep l) := by
  intro l
  induction l with
  | nil => intro _; exact hnil
  | cons x r ih =>
    intro h
    cases r with
    | nil => simpa [joinWith] using h x (by simp)
    | cons y r' =>
      simp only [joinWith]
      exact happ _ _ (happ _ _ (h x (by simp)) hsep) (ih (fun z hz => h z (List.mem_cons_of_mem _ hz)))

theorem joinWith_cons₂ (sep : Char) (x y : Str) (ys : List Str) :
    joinWith [sep] (x :: y :: ys) = x ++ sep :: joinWith [sep] (y :: ys) := by
  simp [joinWith]

theorem mem_joinWith (sep c : Char) (xs : List Str) (h : c ∈ joinWith [sep] xs) :
    c = sep ∨ ∃ x ∈ xs, c ∈ x := by
  induction xs with
  | nil => simp [joinWith] at h
  | cons x rest ih =>
    cases rest with
    | nil => simp only [joinWith] at h; exact Or.inr ⟨x, by simp, h⟩
    | cons y ys =>
      rw [joinWith_cons₂, List.mem_append, List.mem_cons] at h
      rcases h with h1 | h2 | h3
      · exact Or.inr ⟨x, by simp, h1⟩
      · exact Or.inl h2
      · exact (ih h3).imp_right fun ⟨z, hz, hc⟩ => ⟨z, List.mem_cons_of_mem x hz, hc⟩

end joinWith

section upper

theorem upperC_idem (c : Char) : upperC (upperC c) = upperC c := by
  unfold upperC
  by_cases h : 'a' ≤ c ∧ c ≤ 'z'
  · simp only [h, and_self, if_true]
    have h1 : 97 ≤ c.toNat := by
      have := h.1; rw [Char.le_def, UInt32.le_iff_toNat_le] at this; exact this
    have h2 : c.toNat ≤ 122 := by
      have := h.2; rw [Char.le_def, UInt32.le_iff_toNat_le] at this; exact this
    have hv : (Char.ofNat (c.toNat - 32)).toNat = c.toNat - 32 := by
      have : (c.toNat - 32).isValidChar := by left; omega
      rw [Char.ofNat, dif_pos this]
      show (UInt32.ofNatLT _ _).toNat = _
      simp [UInt32.toNat_ofNatLT]
    have : ¬ ('a' ≤ Char.ofNat (c.toNat - 32) ∧ Char.ofNat (c.toNat - 32) ≤ 'z') := by
      intro ⟨g, _⟩
      rw [Char.le_def, UInt32.le_iff_toNat_le] at g
      have : (97 : Nat) ≤ (Char.ofNat (c.toNat - 32)).toNat := g
      omega
    simp [this]
  · simp [h]

theorem upper_idem (k : Str) : upper (upper k) = upper k := by
  simp [upper, List.map_map, Function.comp_def, upperC_idem]

end upper

section order

theorem strLt_iff : ∀ (a b : Str), strLt a b = true ↔ a.map Char.toNat < b.map Char.toNat
  | [], [] => by simp [strLt]
  | [], _ :: _ => by simp [strLt]
  | _ :: _, [] => by simp [strLt]
  | x :: xs, y :: ys => by
    simp only [strLt, List.map_cons, List.cons_lt_cons_iff, ← strLt_iff xs ys]
    by_cases h1 : x.toNat < y.toNat
    · simp [h1]
    · by_cases h2 : y.toNat < x.toNat
      · simp [h1, h2]; omega
      · simp [h1, h2]; omega

theorem strLe_iff (a b : Str) : strLe a b = true ↔ a.map Char.toNat ≤ b.map Char.toNat := by
  unfold strLe
  rw [Bool.not_eq_true', ← Bool.not_eq_true, strLt_iff, List.not_lt]

theorem strLt_asymm (a b : Str) (h : strLt a b = true) : strLt b a = false :=
  Bool.eq_false_iff.2 fun h' => List.lt_asymm ((strLt_iff a b).1 h) ((strLt_iff b a).1 h')

theorem strLe_total (a b : Str) : (strLe a b || strLe b a) = true := by
  rw [Bool.or_eq_true, strLe_iff, strLe_iff]
  exact List.le_total _ _

theorem strLe_trans (a b c : Str) (h1 : strLe a b = true) (h2 : strLe b c = true) : strLe a c = true := by
  rw [strLe_iff] at *
  exact List.le_trans h1 h2

theorem strLe_antisymm (a b : Str) (h1 : strLe a b = true) (h2 : strLe b a = true) : a = b := by
  rw [strLe_iff] at h1 h2
  exact (List.map_inj_right fun _ _ => Char.toNat_inj.1).1 (List.le_antisymm h1 h2)

theorem strLe_of_not (a b : Str) (h : strLe a b = false) : strLe b a = true := by
  simpa [h] using strLe_total a b

end order

end ICal
