/-
  Helper lemmas for C20: the greedy one-to-one matching of `Component.__eq__` and the property-map
  comparison of `CaselessDict.__eq__`; at the end, that the tree the parser returns for a serialisation
  (`sortedTree`, Lemmas/Parse.lean) is equal to the original in this sense.
-/
import ICal.Lemmas.Walk
import ICal.Lemmas.Parse
namespace ICal

open List

inductive Forall2 {α β} (R : α → β → Prop) : List α → List β → Prop
  | nil : Forall2 R [] []
  | cons {a b as bs} : R a b → Forall2 R as bs → Forall2 R (a :: as) (b :: bs)

def Matching {α β} (R : α → β → Prop) (as : List α) (bs : List β) : Prop :=
  ∃ l, l.Perm bs ∧ Forall2 R as l

namespace Forall2
variable {α β γ : Type} {R : α → β → Prop}

theorem length_eq {as : List α} {bs : List β} (h : Forall2 R as bs) : as.length = bs.length := by
  induction h with
  | nil => rfl
  | cons _ _ ih => simp [ih]

theorem imp_mem {S : α → β → Prop} {as : List α} {bs : List β} (h : Forall2 R as bs)
    (f : ∀ a ∈ as, ∀ b ∈ bs, R a b → S a b) : Forall2 S as bs := by
  induction h with
  | nil => exact .nil
  | cons hr _ ih =>
    refine .cons (f _ (by simp) _ (by simp) hr) (ih ?_)
    intro a ha b hb
    exact f a (by simp [ha]) b (by simp [hb])

theorem flip {as : List α} {bs : List β} (h : Forall2 R as bs) : Forall2 (fun b a => R a b) bs as := by
  induction h with
  | nil => exact .nil
  | cons hr _ ih => exact .cons hr ih

theorem append {a1 a2 : List α} {b1 b2 : List β} (h1 : Forall2 R a1 b1) (h2 : Forall2 R a2 b2) :
    Forall2 R (a1 ++ a2) (b1 ++ b2) := by
  induction h1 with
  | nil => exact h2
  | cons hr _ ih => exact .cons hr ih

theorem refl_of {R : α → α → Prop} : ∀ (l : List α), (∀ a ∈ l, R a a) → Forall2 R l l
  | [], _ => .nil
  | a :: l, h => .cons (h a (by simp)) (refl_of l (fun b hb => h b (by simp [hb])))

theorem split_right {as : List α} {bs : List β} (h : Forall2 R as bs) {y : β} (hy : y ∈ bs) :
    ∃ pu q pv u v, as = pu ++ q :: pv ∧ bs = u ++ y :: v ∧ Forall2 R pu u ∧ R q y ∧ Forall2 R pv v := by
  induction h with
  | nil => cases hy
  | @cons a b as bs hr ht ih =>
    rcases List.mem_cons.1 hy with rfl | hy'
    · exact ⟨[], a, as, [], bs, rfl, rfl, .nil, hr, ht⟩
    · obtain ⟨pu, q, pv, u, v, e1, e2, f1, hq, f2⟩ := ih hy'
      exact ⟨a :: pu, q, pv, b :: u, v, by simp [e1], by simp [e2], .cons hr f1, hq, f2⟩

theorem perm_left {as as' : List α} (hp : as'.Perm as) :
    ∀ {l : List β}, Forall2 R as l → ∃ l', l'.Perm l ∧ Forall2 R as' l' := by
  induction hp with
  | nil => intro l h; exact ⟨l, Perm.refl _, h⟩
  | cons x _ ih =>
    intro l h
    cases h with
    | cons hr ht =>
      obtain ⟨l', p', f'⟩ := ih ht
      exact ⟨_ :: l', p'.cons _, .cons hr f'⟩
  | swap x y t =>
    intro l h
    cases h with
    | cons hr ht =>
      cases ht with
      | cons hr2 ht2 => exact ⟨_ :: _ :: _, Perm.swap _ _ _, .cons hr2 (.cons hr ht2)⟩
  | trans _ _ ih1 ih2 =>
    intro l h
    obtain ⟨l1, p1, f1⟩ := ih2 h
    obtain ⟨l2, p2, f2⟩ := ih1 f1
    exact ⟨l2, p2.trans p1, f2⟩

theorem comp {S : β → γ → Prop} {as : List α} {bs : List β} (h : Forall2 R as bs) :
    ∀ {cs : List γ}, Forall2 S bs cs → Forall2 (fun a c => ∃ b, b ∈ bs ∧ R a b ∧ S b c) as cs := by
  induction h with
  | nil => intro cs h2; cases h2; exact .nil
  | cons hr _ ih =>
    intro cs h2
    cases h2 with
    | cons hs ht =>
      refine .cons ⟨_, by simp, hr, hs⟩ ((ih ht).imp_mem ?_)
      intro a _ c _ ⟨b, hb, h1, h2⟩
      exact ⟨b, by simp [hb], h1, h2⟩

theorem map_left {δ : Type} (f : δ → α) {as : List δ} {bs : List β} :
    Forall2 R (as.map f) bs ↔ Forall2 (fun a b => R (f a) b) as bs := by
  constructor
  · intro h
    induction as generalizing bs with
    | nil => cases h; exact .nil
    | cons a as ih => cases h with | cons hr ht => exact .cons hr (ih ht)
  · intro h
    induction h with
    | nil => exact .nil
    | cons hr _ ih => exact .cons hr ih

end Forall2

namespace Matching
variable {α β γ : Type} {R : α → β → Prop}

theorem length_eq {as : List α} {bs : List β} (h : Matching R as bs) : as.length = bs.length := by
  obtain ⟨l, p, f⟩ := h
  rw [f.length_eq, p.length_eq]

theorem symm {as : List α} {bs : List β} (h : Matching R as bs) : Matching (fun b a => R a b) bs as := by
  obtain ⟨l, p, f⟩ := h
  obtain ⟨l', p', f'⟩ := Forall2.perm_left p.symm f.flip
  exact ⟨l', p', f'⟩

theorem trans {S : β → γ → Prop} {as : List α} {bs : List β} {cs : List γ}
    (h1 : Matching R as bs) (h2 : Matching S bs cs) :
    Matching (fun a c => ∃ b, b ∈ bs ∧ R a b ∧ S b c) as cs := by
  obtain ⟨l1, p1, f1⟩ := h1
  obtain ⟨l2, p2, f2⟩ := h2
  obtain ⟨l2', p2', f2'⟩ := Forall2.perm_left p1 f2
  refine ⟨l2', p2'.trans p2, (f1.comp f2').imp_mem ?_⟩
  intro a _ c _ ⟨b, hb, h1, h2⟩
  exact ⟨b, p1.mem_iff.1 hb, h1, h2⟩

theorem imp_mem {S : α → β → Prop} {as : List α} {bs : List β} (h : Matching R as bs)
    (f : ∀ a ∈ as, ∀ b ∈ bs, R a b → S a b) : Matching S as bs := by
  obtain ⟨l, p, g⟩ := h
  exact ⟨l, p, g.imp_mem (fun a ha b hb => f a ha b (p.mem_iff.1 hb))⟩

end Matching

section greedy
variable {α : Type}

theorem removeFirst_some {p : α → Bool} : ∀ {xs r : List α}, removeFirst p xs = some r →
    ∃ y, p y = true ∧ xs.Perm (y :: r)
  | [], _, h => by simp [removeFirst] at h
  | x :: xs, r, h => by
    simp only [removeFirst] at h
    by_cases hx : p x = true
    · simp only [hx, if_true, Option.some.injEq] at h
      subst h
      exact ⟨x, hx, Perm.refl _⟩
    · simp only [hx, Bool.false_eq_true, if_false, Option.map_eq_some_iff] at h
      obtain ⟨r', hr', rfl⟩ := h
      obtain ⟨y, hy, hp⟩ := removeFirst_some hr'
      exact ⟨y, hy, (hp.cons x).trans (Perm.swap _ _ _)⟩

theorem removeFirst_none {p : α → Bool} : ∀ {xs : List α}, removeFirst p xs = none → ∀ x ∈ xs, p x = false
  | [], _ => by simp
  | x :: xs, h => by
    simp only [removeFirst] at h
    by_cases hx : p x = true
    · simp [hx] at h
    · simp only [hx, Bool.false_eq_true, if_false, Option.map_eq_none_iff] at h
      intro z hz
      rcases List.mem_cons.1 hz with rfl | hz
      · simpa using hx
      · exact removeFirst_none h z hz

theorem greedy_sound : ∀ (ps : List (α → Bool)) (xs : List α), greedy ps xs = true →
    ps.length = xs.length → Matching (fun p x => p x = true) ps xs
  | [], xs, _, hl => by
    have : xs = [] := List.length_eq_zero_iff.1 (by simpa using hl.symm)
    subst this
    exact ⟨[], Perm.refl _, .nil⟩
  | p :: ps, xs, h, hl => by
    simp only [greedy] at h
    split at h
    · next r hr =>
      obtain ⟨y, hy, hp⟩ := removeFirst_some hr
      have hlen : ps.length = r.length := by
        have := hp.length_eq
        simp only [List.length_cons] at this hl
        omega
      obtain ⟨l, pl, fl⟩ := greedy_sound ps r h hlen
      exact ⟨y :: l, (pl.cons y).trans hp.symm, .cons hy fl⟩
    · cases h

theorem greedy_false_of_unmatched : ∀ (ps : List (α → Bool)) (xs : List α) (p : α → Bool),
    p ∈ ps → (∀ x ∈ xs, p x = false) → greedy ps xs = false
  | [], _, _, h, _ => by cases h
  | q :: ps, xs, p, hmem, hall => by
    simp only [greedy]
    split
    · next r hr =>
      obtain ⟨y, hy, hp⟩ := removeFirst_some hr
      rcases List.mem_cons.1 hmem with rfl | hmem'
      · have := hall y (hp.mem_iff.2 (by simp))
        simp [this] at hy
      · exact greedy_false_of_unmatched ps r p hmem'
          (fun x hx => hall x (hp.mem_iff.2 (by simp [hx])))
    · rfl

/-- a matching is found by the greedy run when the predicates are "rectangular" (as the
    classes of an equivalence are): two predicates that share one candidate share all -/
theorem greedy_complete : ∀ (ps : List (α → Bool)) (xs : List α),
    Matching (fun p x => p x = true) ps xs →
    (∀ p ∈ ps, ∀ q ∈ ps, ∀ x ∈ xs, ∀ y ∈ xs, p x = true → p y = true → q x = true → q y = true) →
    greedy ps xs = true
  | [], _, _, _ => by simp [greedy]
  | p :: ps, xs, ⟨l, pl, fl⟩, D => by
    cases fl with
    | @cons _ x0 _ l' hp0 fl' =>
    have hx0 : x0 ∈ xs := pl.mem_iff.1 (by simp)
    simp only [greedy]
    split
    · next r hr =>
      obtain ⟨y, hy, hp⟩ := removeFirst_some hr
      have hyxs : y ∈ xs := hp.mem_iff.2 (by simp)
      have hsub : ∀ z ∈ r, z ∈ xs := fun z hz => hp.mem_iff.2 (by simp [hz])
      apply greedy_complete ps r
      · -- a matching of the remaining predicates into r
        have hperm : (y :: r).Perm (x0 :: l') := hp.symm.trans pl.symm
        have hy' : y ∈ x0 :: l' := hperm.mem_iff.1 (by simp)
        rcases List.mem_cons.1 hy' with rfl | hyl
        · exact ⟨l', hperm.cons_inv.symm, fl'⟩
        · obtain ⟨pu, q, pv, u, v, e1, e2, f1, hq, f2⟩ := fl'.split_right hyl
          subst e1 e2
          -- exchange: `p` was matched to `x0` but the run gave it `y`, which the matching gives to `q`;
          -- `p` accepts both, `q` accepts `y`, so (rectangular) `q` accepts `x0` and takes it instead
          have hq0 : q x0 = true :=
            D p (by simp) q (by simp) y hyxs x0 hx0 hy hp0 hq
          refine ⟨u ++ x0 :: v, ?_, f1.append (.cons hq0 f2)⟩
          have h1 : (y :: r).Perm (y :: (u ++ x0 :: v)) := by
            refine hperm.trans ?_
            refine ((perm_middle (a := y) (l₁ := u) (l₂ := v)).cons x0).trans ?_
            refine (Perm.swap y x0 _).trans ?_
            exact ((perm_middle (a := x0) (l₁ := u) (l₂ := v)).symm).cons y
          exact h1.cons_inv.symm
      · intro p1 hp1 q1 hq1 a ha b hb
        exact D p1 (by simp [hp1]) q1 (by simp [hq1]) a (hsub a ha) b (hsub b hb)
    · next hnone =>
      have := removeFirst_none hnone x0 hx0
      simp [this] at hp0

theorem greedy_diag : ∀ (ps : List (α → Bool)) (xs : List α),
    Forall2 (fun p x => p x = true) ps xs → greedy ps xs = true
  | [], _, _ => by simp [greedy]
  | p :: ps, _, h => by
    cases h with
    | cons hp ht => simp [greedy, removeFirst, hp, greedy_diag ps _ ht]

end greedy

theorem subset_of_nodup_of_length {α} {l₁ l₂ : List α} (h₁ : l₁.Nodup) (hsub : l₁ ⊆ l₂)
    (hlen : l₂.length ≤ l₁.length) : l₂ ⊆ l₁ := by
  intro x hx
  apply Classical.byContradiction
  intro hnot
  have hn : (x :: l₁).Nodup := List.nodup_cons.2 ⟨hnot, h₁⟩
  have hs : (x :: l₁) ⊆ l₂ := by
    intro z hz
    rcases List.mem_cons.1 hz with rfl | hz
    · exact hx
    · exact hsub hz
  have := hn.length_le_of_subset hs
  simp only [List.length_cons] at this
  omega

section props
variable (veq : Val → Val → Bool)

theorem listEq_refl {α} (eq : α → α → Bool) (hr : ∀ v, eq v v = true) : ∀ l, listEq eq l l = true
  | [] => rfl
  | a :: l => by simp [listEq, hr a, listEq_refl eq hr l]

theorem listEq_symm {α} (eq : α → α → Bool) (hs : ∀ a b, eq a b = true → eq b a = true) :
    ∀ l m, listEq eq l m = true → listEq eq m l = true
  | [], [], _ => rfl
  | [], _ :: _, h => nomatch h
  | _ :: _, [], h => nomatch h
  | a :: l, b :: m, h => by
    simp only [listEq, Bool.and_eq_true] at h ⊢
    exact ⟨hs _ _ h.1, listEq_symm eq hs l m h.2⟩

theorem listEq_trans {α} (eq : α → α → Bool) (ht : ∀ a b c, eq a b = true → eq b c = true → eq a c = true) :
    ∀ l m k, listEq eq l m = true → listEq eq m k = true → listEq eq l k = true
  | [], [], [], _, _ => rfl
  | [], [], _ :: _, _, h => nomatch h
  | [], _ :: _, _, h, _ => nomatch h
  | _ :: _, [], _, h, _ => nomatch h
  | _ :: _, _ :: _, [], _, h => nomatch h
  | a :: l, b :: m, c :: k, h1, h2 => by
    simp only [listEq, Bool.and_eq_true] at h1 h2 ⊢
    exact ⟨ht _ _ _ h1.1 h2.1, listEq_trans eq ht l m k h1.2 h2.2⟩

theorem entryEq_refl (hr : ∀ v, veq v v = true) (a : Entry) : entryEq veq a a = true := by
  simp [entryEq, listEq_refl veq hr]

theorem entryEq_symm (hs : ∀ a b, veq a b = true → veq b a = true) (a b : Entry)
    (h : entryEq veq a b = true) : entryEq veq b a = true := by
  simp only [entryEq, Bool.and_eq_true, beq_iff_eq] at h ⊢
  exact ⟨h.1.symm, listEq_symm veq hs _ _ h.2⟩

theorem entryEq_trans (ht : ∀ a b c, veq a b = true → veq b c = true → veq a c = true) (a b c : Entry)
    (h1 : entryEq veq a b = true) (h2 : entryEq veq b c = true) : entryEq veq a c = true := by
  simp only [entryEq, Bool.and_eq_true, beq_iff_eq] at h1 h2 ⊢
  exact ⟨h1.1.trans h2.1, listEq_trans veq ht _ _ _ h1.2 h2.2⟩

theorem propsEq_iff (p q : List Entry) : propsEq veq p q = true ↔
    p.length = q.length ∧ ∀ a ∈ p, ∃ b, q.find? (fun b => b.name == a.name) = some b ∧ entryEq veq a b = true := by
  simp only [propsEq, Bool.and_eq_true, beq_iff_eq, List.all_eq_true]
  constructor
  · rintro ⟨hl, h⟩
    refine ⟨hl, fun a ha => ?_⟩
    have := h a ha
    split at this
    · next b hb => exact ⟨b, hb, this⟩
    · cases this
  · rintro ⟨hl, h⟩
    refine ⟨hl, fun a ha => ?_⟩
    obtain ⟨b, hb, he⟩ := h a ha
    simp [hb, he]

theorem propsEq_refl (hr : ∀ v, veq v v = true) (p : List Entry) (hd : keysDistinct p) :
    propsEq veq p p = true := by
  rw [propsEq_iff]
  exact ⟨rfl, fun a ha => ⟨a, find_of_distinct p hd a ha, entryEq_refl veq hr a⟩⟩

theorem propsEq_trans (ht : ∀ a b c, veq a b = true → veq b c = true → veq a c = true)
    (p q r : List Entry) (h1 : propsEq veq p q = true) (h2 : propsEq veq q r = true) :
    propsEq veq p r = true := by
  rw [propsEq_iff] at h1 h2 ⊢
  refine ⟨h1.1.trans h2.1, fun a ha => ?_⟩
  obtain ⟨b, hb, hab⟩ := h1.2 a ha
  obtain ⟨hbn, hbq⟩ := find_name_some hb
  obtain ⟨c, hc, hbc⟩ := h2.2 b hbq
  exact ⟨c, by rw [← hbn]; exact hc, entryEq_trans veq ht a b c hab hbc⟩

theorem propsEq_symm (hs : ∀ a b, veq a b = true → veq b a = true)
    (p q : List Entry) (hp : keysDistinct p) (hq : keysDistinct q)
    (h : propsEq veq p q = true) : propsEq veq q p = true := by
  rw [propsEq_iff] at h ⊢
  refine ⟨h.1.symm, fun b hb => ?_⟩
  -- every key of q is a key of p (pigeonhole on the duplicate-free key lists)
  have hsub : p.map (·.name) ⊆ q.map (·.name) := by
    intro k hk
    obtain ⟨a, ha, rfl⟩ := List.mem_map.1 hk
    obtain ⟨b', hb', _⟩ := h.2 a ha
    obtain ⟨hn, hm⟩ := find_name_some hb'
    exact hn ▸ List.mem_map_of_mem hm
  have hsup := subset_of_nodup_of_length hp hsub (by simp [h.1])
  obtain ⟨a, ha, han⟩ := List.mem_map.1 (hsup (List.mem_map_of_mem hb))
  obtain ⟨b', hb', hab'⟩ := h.2 a ha
  have hfb : q.find? (fun x => x.name == b.name) = some b := find_of_distinct q hq b hb
  have : b' = b := by
    have han' : a.name = b.name := han
    rw [han'] at hb'
    rw [hfb] at hb'
    exact (Option.some.inj hb').symm
  subst this
  refine ⟨a, ?_, entryEq_symm veq hs a b' hab'⟩
  have han' : a.name = b'.name := han
  rw [← han']
  exact find_of_distinct p hp a ha

theorem propsEq_perm (hr : ∀ v, veq v v = true) (p p' : List Entry) (hd : keysDistinct p)
    (hperm : p'.Perm p) : propsEq veq p p' = true := by
  rw [propsEq_iff]
  have hd' : keysDistinct p' := (hperm.map (fun e : Entry => e.name)).symm.nodup hd
  exact ⟨hperm.length_eq.symm, fun a ha =>
    ⟨a, find_of_distinct p' hd' a (hperm.mem_iff.2 ha), entryEq_refl veq hr a⟩⟩

end props

theorem size_pos (a : Comp) : 1 ≤ size a := by
  cases a; simp [size]

theorem size_le_sizeL : ∀ {cs : List Comp} {c : Comp}, c ∈ cs → size c ≤ sizeL cs
  | [], _, h => by cases h
  | d :: cs, c, h => by
    simp only [sizeL]
    rcases List.mem_cons.1 h with rfl | h
    · omega
    · have := size_le_sizeL h; omega

theorem size_child {a c : Comp} (h : c ∈ a.subs) : size c < size a := by
  cases a with
  | mk n p s =>
    have := size_le_sizeL (cs := s) h
    simp only [size]; omega

theorem WFL_mem : ∀ {cs : List Comp}, Comp.WFL cs → ∀ c ∈ cs, Comp.WF c
  | [], _, _, h => by cases h
  | d :: cs, hw, c, h => by
    simp only [Comp.WFL] at hw
    rcases List.mem_cons.1 h with rfl | h
    · exact hw.1
    · exact WFL_mem hw.2 c h

theorem WFL_of_mem : ∀ {cs : List Comp}, (∀ c ∈ cs, Comp.WF c) → Comp.WFL cs
  | [], _ => by simp [Comp.WFL]
  | d :: cs, h => by
    simp only [Comp.WFL]
    exact ⟨h d (by simp), WFL_of_mem (fun c hc => h c (by simp [hc]))⟩

theorem WF_iff (a : Comp) : Comp.WF a ↔ keysDistinct a.props ∧ ∀ c ∈ a.subs, Comp.WF c := by
  cases a with
  | mk n p s =>
    simp only [Comp.WF, Comp.props, Comp.subs]
    exact ⟨fun h => ⟨h.1, WFL_mem h.2⟩, fun h => ⟨h.1, WFL_of_mem h.2⟩⟩

theorem WF_perm_subs {n : Str} {p : List Entry} {subs subs' : List Comp} (hw : Comp.WF (.mk n p subs))
    (hperm : subs'.Perm subs) : Comp.WF (.mk n p subs') :=
  have hw' := (WF_iff _).1 hw
  (WF_iff _).2 ⟨hw'.1, fun c hc => hw'.2 c (hperm.mem_iff.1 hc)⟩

section comp
variable (veq : Val → Val → Bool)

theorem compEqL_eq_map : ∀ cs, compEqL veq cs = cs.map (compEq veq)
  | [] => by simp [compEqL]
  | c :: cs => by simp [compEqL, compEqL_eq_map cs]

theorem compEq_def (a b : Comp) : compEq veq a b =
    (a.name == b.name && a.subs.length == b.subs.length && propsEq veq a.props b.props &&
      greedy (a.subs.map (compEq veq)) b.subs) := by
  cases a with
  | mk n p s => simp only [compEq, compEqL_eq_map, Comp.name, Comp.subs, Comp.props]

theorem compEq_sound (a b : Comp) (h : compEq veq a b = true) :
    a.name = b.name ∧ propsEq veq a.props b.props = true ∧
      Matching (fun c d => compEq veq c d = true) a.subs b.subs := by
  rw [compEq_def] at h
  simp only [Bool.and_eq_true, beq_iff_eq] at h
  obtain ⟨⟨⟨hn, hl⟩, hp⟩, hg⟩ := h
  refine ⟨hn, hp, ?_⟩
  obtain ⟨l, pl, fl⟩ := greedy_sound _ _ hg (by simpa using hl)
  exact ⟨l, pl, (Forall2.map_left (compEq veq)).1 fl⟩

theorem compEq_complete (a b : Comp) (hn : a.name = b.name) (hp : propsEq veq a.props b.props = true)
    (hm : Matching (fun c d => compEq veq c d = true) a.subs b.subs)
    (D : ∀ c ∈ a.subs, ∀ c' ∈ a.subs, ∀ x ∈ b.subs, ∀ y ∈ b.subs,
      compEq veq c x = true → compEq veq c y = true → compEq veq c' x = true → compEq veq c' y = true) :
    compEq veq a b = true := by
  rw [compEq_def]
  simp only [Bool.and_eq_true, beq_iff_eq]
  refine ⟨⟨⟨hn, hm.length_eq⟩, hp⟩, ?_⟩
  apply greedy_complete
  · obtain ⟨l, pl, fl⟩ := hm
    exact ⟨l, pl, (Forall2.map_left (compEq veq)).2 fl⟩
  · intro p hp q hq x hx y hy
    obtain ⟨c, hc, rfl⟩ := List.mem_map.1 hp
    obtain ⟨c', hc', rfl⟩ := List.mem_map.1 hq
    exact D c hc c' hc' x hx y hy

structure VEquiv : Prop where
  refl : ∀ v, veq v v = true
  symm : ∀ a b, veq a b = true → veq b a = true
  trans : ∀ a b c, veq a b = true → veq b c = true → veq a c = true

theorem compEq_of_forall2 (a b : Comp) (hn : a.name = b.name) (hp : propsEq veq a.props b.props = true)
    (hf : Forall2 (fun c d => compEq veq c d = true) a.subs b.subs) : compEq veq a b = true := by
  rw [compEq_def]
  simp only [Bool.and_eq_true, beq_iff_eq]
  exact ⟨⟨⟨hn, hf.length_eq⟩, hp⟩, greedy_diag _ _ ((Forall2.map_left (compEq veq)).2 hf)⟩

theorem compEq_refl (hr : ∀ v, veq v v = true) : ∀ (n : Nat) (a : Comp), size a ≤ n → Comp.WF a →
    compEq veq a a = true
  | 0, a, h, _ => by have := size_pos a; omega
  | n + 1, a, h, hw => by
    have hw' := (WF_iff a).1 hw
    exact compEq_of_forall2 veq a a rfl (propsEq_refl veq hr _ hw'.1)
      (Forall2.refl_of _ fun c hc => compEq_refl hr n c (by have := size_child hc; omega) (hw'.2 c hc))

/-- symmetry and transitivity together, by induction on a bound `n` for the sizes: the greedy loop
    finds the matching that `Matching.symm` / `Matching.trans` give because equality below `n` is
    rectangular, which needs both -/
theorem compEq_symm_trans (hv : VEquiv veq) : ∀ (n : Nat),
    (∀ a b, size a ≤ n ∧ Comp.WF a → size b ≤ n ∧ Comp.WF b →
      compEq veq a b = true → compEq veq b a = true) ∧
    (∀ a b c, size a ≤ n ∧ Comp.WF a → size b ≤ n ∧ Comp.WF b → size c ≤ n ∧ Comp.WF c →
      compEq veq a b = true → compEq veq b c = true → compEq veq a c = true)
  | 0 => ⟨fun a _ h => by have := size_pos a; omega, fun a _ _ h => by have := size_pos a; omega⟩
  | n + 1 => by
    obtain ⟨S, T⟩ := compEq_symm_trans hv n
    have sub : ∀ {a c : Comp}, size a ≤ n + 1 ∧ Comp.WF a → c ∈ a.subs → size c ≤ n ∧ Comp.WF c :=
      fun h hc => ⟨by have := size_child hc; omega, ((WF_iff _).1 h.2).2 _ hc⟩
    -- d' ~ x ~ d ~ y
    have rect : ∀ {d d' x y : Comp}, size d ≤ n ∧ Comp.WF d → size d' ≤ n ∧ Comp.WF d' →
        size x ≤ n ∧ Comp.WF x → size y ≤ n ∧ Comp.WF y → compEq veq d x = true → compEq veq d y = true →
        compEq veq d' x = true → compEq veq d' y = true :=
      fun hd hd' hx hy h1 h2 h3 => T _ _ _ hd' hd hy (T _ _ _ hd' hx hd h3 (S _ _ hd hx h1)) h2
    constructor
    · intro a b ha hb h
      obtain ⟨hn, hp, hm⟩ := compEq_sound veq a b h
      apply compEq_complete veq b a hn.symm
        (propsEq_symm veq hv.symm _ _ ((WF_iff a).1 ha.2).1 ((WF_iff b).1 hb.2).1 hp)
      · exact hm.symm.imp_mem (fun d hd c hc hcd => S c d (sub ha hc) (sub hb hd) hcd)
      · exact fun d hd d' hd' x hx y hy => rect (sub hb hd) (sub hb hd') (sub ha hx) (sub ha hy)
    · intro a b c ha hb hc h1 h2
      obtain ⟨hn1, hp1, hm1⟩ := compEq_sound veq a b h1
      obtain ⟨hn2, hp2, hm2⟩ := compEq_sound veq b c h2
      apply compEq_complete veq a c (hn1.trans hn2) (propsEq_trans veq hv.trans _ _ _ hp1 hp2)
      · exact (hm1.trans hm2).imp_mem (fun x hx z hz ⟨y, hy, hxy, hyz⟩ =>
          T x y z (sub ha hx) (sub hb hy) (sub hc hz) hxy hyz)
      · exact fun d hd d' hd' x hx y hy => rect (sub ha hd) (sub ha hd') (sub hc hx) (sub hc hy)

end comp

/-! ### the tree the parser returns for a serialisation (`sortedTree`, Lemmas/Parse.lean) -/

mutual
/-- C01's well-formedness (`PropsOK` demands pairwise distinct names) gives key distinctness -/
theorem compWF_of_WF (dec : Dec) : ∀ t, WF dec t → Comp.WF t
  | .mk n p subs, h => by
    simp only [WF] at h
    simp only [Comp.WF]
    exact ⟨h.2.2.1.1, compWFL_of_WFs dec subs h.2.2.2⟩
theorem compWFL_of_WFs (dec : Dec) : ∀ cs, WFs dec cs → Comp.WFL cs
  | [], _ => by simp [Comp.WFL]
  | c :: cs, h => by
    simp only [WFs] at h
    simp only [Comp.WFL]
    exact ⟨compWF_of_WF dec c h.1, compWFL_of_WFs dec cs h.2⟩
end

section sorted
variable (veq : Val → Val → Bool) (b : Bool)

mutual
/-- `sortedTree` permutes the entries of every component and keeps the subcomponents in place,
    so the result is equal to the original — in both directions -/
theorem compEq_sortedTree (hr : ∀ v, veq v v = true) : ∀ t, Comp.WF t →
    compEq veq t (sortedTree b t) = true ∧ compEq veq (sortedTree b t) t = true
  | .mk n p subs, hw => by
    simp only [Comp.WF] at hw
    have hperm := sortedProps_perm b n p hw.1
    have hd' : keysDistinct (sortedProps b n p) :=
      (hperm.map (fun e : Entry => e.name)).symm.nodup hw.1
    have ih := compEq_sortedTrees hr subs hw.2
    simp only [sortedTree]
    exact ⟨compEq_of_forall2 veq _ _ rfl (propsEq_perm veq hr p _ hw.1 hperm) ih.1,
      compEq_of_forall2 veq _ _ rfl (propsEq_perm veq hr _ p hd' hperm.symm) ih.2⟩
theorem compEq_sortedTrees (hr : ∀ v, veq v v = true) : ∀ cs, Comp.WFL cs →
    Forall2 (fun c d => compEq veq c d = true) cs (sortedTrees b cs) ∧
    Forall2 (fun c d => compEq veq c d = true) (sortedTrees b cs) cs
  | [], _ => by simp only [sortedTrees]; exact ⟨.nil, .nil⟩
  | c :: cs, hw => by
    simp only [Comp.WFL] at hw
    simp only [sortedTrees]
    have h1 := compEq_sortedTree hr c hw.1
    have h2 := compEq_sortedTrees hr cs hw.2
    exact ⟨.cons h1.1 h2.1, .cons h1.2 h2.2⟩
end

end sorted

end ICal
