/-
  Equality of the regenerated `Alarms.times`, `_get_absolute_alarm_times`, `_get_start_alarm_times`,
  `_get_end_alarm_times` and `_alarm_time` of alarms.py (ICal/Gen/BodiesAlarm.lean, tools/py2lean.py: the nested
  comprehensions `[self._alarm_time(alarm, trigger) for alarm in .. for trigger in self._repeat(.., alarm)]`, the calls
  of the translated `_repeat` / `_add` with the alarm's REPEAT / DURATION / TRIGGER, the ComponentStartMissing /
  ComponentEndMissing tests, the local time zone applied to a trigger without tzinfo, the order end + start + absolute)
  with the hand model `times` of ICal/Model/Alarm.lean.  The external pieces are those of ICal/Model/AlarmPieces.lean.
  The model's three lists hold only alarms `add_alarm` would put there (`Sorted`: an absolute TRIGGER in
  `absoluteAlarms`, a relative one in the others); `sorted_ofComponent` shows it of every state built by
  `Alarms(component)`.  `self._add(self._start, ..)` with `_start` None (TypeError in Python) is inside a
  comprehension over an empty list there: the proof shows it is never reached.
  `Alarms.add_component` with `set_parent`, `set_start`, `set_end`, `acknowledge_until`, `snooze_until`, `add_alarm`
  (methods that write attributes of self: translated as functions from the attributes before to the attributes
  after) is the model's `addComponent` (`add_component_eq`), `add_alarm` is `addAlarm`, and the chain
  add_component then times is the model's (`add_component_times`).
-/
import ICal.Model.AlarmPieces
import ICal.Lemmas.Alarm
import ICal.Lemmas.BodiesAlarm
import ICal.Lemmas.BodiesRT
namespace ICal.Bodies
open ICal ICal.PyRT ICal.Alarms ICal.Gen.BodiesAlarm

def toATup (x : AlarmTime) : ATup := (x.alarm, x.trig, awareOpt x.lastAck, awareOpt x.snooze)

/-- what `add_alarm` guarantees of the three lists -/
structure Sorted (s : State) : Prop where
  abs : ∀ a ∈ s.absoluteAlarms, ∃ t, a.trigger = some t ∧ t.isAbs = true
  start : ∀ a ∈ s.startAlarms, ∃ td, a.trigger = some (.rel td)
  end_ : ∀ a ∈ s.endAlarms, ∃ td, a.trigger = some (.rel td)

theorem alarm_time_eq (loc : Int → Int) (s : State) (a : VAlarm) (t : Trig) :
    Alarms_alarm_time (alarm := a) (trigger := t) (local_tzinfo := localTzP s) (to_datetime := toDatetime) (localize := localizeP loc) (normalize_pytz := id)
      (last_ack := awareOpt s.lastAck) (snooze_until := awareOpt s.snooze) (parent := ()) (mk_alarm_time := mkATP) =
      toATup (alarmTime loc s a t) := by
  simp only [Alarms_alarm_time, alarmTime, toATup, mkATP, localTzP, applyLocal]
  cases t <;> cases s.localTz <;> simp [Trig.isAware, localizeP, toDatetime]

/-- a nested comprehension `[g(b) for a in xs for b in G(a)]` whose inner list may raise but does not -/
theorem comprehension_eq {α β γ : Type} (F : α → Py (List γ)) (G : α → List β) (g : β → γ) (xs : List α)
    (h : ∀ a ∈ xs, F a = .ok ((G a).map g)) :
    (List.mapM F xs >>= fun t => pure t.flatten) = .ok ((xs.flatMap G).map g) := by
  rw [mapM_ok F _ xs h, List.flatMap_def, List.map_flatten, List.map_map]
  rfl

theorem absolute_eq (loc : Int → Int) (s : State) (h : Sorted s) :
    Alarms_get_absolute_alarm_times (absolute_alarms := s.absoluteAlarms) (alarm_trigger_abs := trigAbsP) (alarm_repeat := fun a => a.rep)
      (alarm_duration := fun a => a.duration) (local_tzinfo := localTzP s) (to_datetime := toDatetime) (localize := localizeP loc) (normalize_pytz := id)
      (last_ack := awareOpt s.lastAck) (snooze_until := awareOpt s.snooze) (parent := ()) (mk_alarm_time := mkATP) = .ok ((absoluteTimes loc s).map toATup) := by
  unfold Alarms_get_absolute_alarm_times absoluteTimes
  apply comprehension_eq
  intro a ha
  obtain ⟨t, ht, _⟩ := h.abs a ha
  simp only [Alarms_repeat_eq, alarm_time_eq, bind, Except.bind, pure, Except.pure, ht, trigAbsP, List.map_map]
  rfl

theorem relative_eq (loc : Int → Int) (s : State) (anchor : Trig) (alarms : List VAlarm)
    (h : ∀ a ∈ alarms, ∃ td, a.trigger = some (.rel td)) :
    Alarms_get_start_alarm_times (start := some anchor) (start_alarms := alarms) (alarm_trigger_rel := trigRelP) (alarm_repeat := fun a => a.rep) (alarm_duration := fun a => a.duration)
      (local_tzinfo := localTzP s) (to_datetime := toDatetime) (localize := localizeP loc) (normalize_pytz := id)
      (last_ack := awareOpt s.lastAck) (snooze_until := awareOpt s.snooze) (parent := ()) (mk_alarm_time := mkATP) = .ok ((relativeTimes loc s anchor alarms).map toATup) := by
  unfold Alarms_get_start_alarm_times relativeTimes
  apply comprehension_eq
  intro a ha
  obtain ⟨td, ht⟩ := h a ha
  simp only [Alarms_add_eq, Alarms_repeat_eq, alarm_time_eq, bind, Except.bind, pure, Except.pure, ht, trigRelP, List.map_map]
  rfl

theorem start_eq (loc : Int → Int) (s : State) (h : Sorted s) :
    Alarms_get_start_alarm_times (start := s.start) (start_alarms := s.startAlarms) (alarm_trigger_rel := trigRelP) (alarm_repeat := fun a => a.rep) (alarm_duration := fun a => a.duration)
      (local_tzinfo := localTzP s) (to_datetime := toDatetime) (localize := localizeP loc) (normalize_pytz := id)
      (last_ack := awareOpt s.lastAck) (snooze_until := awareOpt s.snooze) (parent := ()) (mk_alarm_time := mkATP) = liftA ((startTimes loc s).map (List.map toATup)) := by
  unfold startTimes
  cases hs : s.start with
  | none => cases s.startAlarms <;> rfl
  | some st => exact relative_eq loc s st s.startAlarms h.start

theorem end_eq (loc : Int → Int) (s : State) (h : Sorted s) :
    Alarms_get_end_alarm_times (end_ := s.end_) (end_alarms := s.endAlarms) (alarm_trigger_rel := trigRelP) (alarm_repeat := fun a => a.rep) (alarm_duration := fun a => a.duration)
      (local_tzinfo := localTzP s) (to_datetime := toDatetime) (localize := localizeP loc) (normalize_pytz := id)
      (last_ack := awareOpt s.lastAck) (snooze_until := awareOpt s.snooze) (parent := ()) (mk_alarm_time := mkATP) = liftA ((endTimes loc s).map (List.map toATup)) := by
  unfold endTimes
  cases hs : s.end_ with
  | none => cases s.endAlarms <;> rfl
  -- with the anchor present, `_get_end_alarm_times` is the same term as `_get_start_alarm_times`
  | some en => exact relative_eq loc s en s.endAlarms h.end_

/-- the translated `Alarms.times` is the model's `times` (on a state whose three lists are sorted as `add_alarm` sorts them) -/
theorem times_eq (loc : Int → Int) (s : State) (h : Sorted s) :
    timesP loc s = liftA ((times loc s).map (List.map toATup)) := by
  unfold timesP Alarms_times times
  rw [end_eq loc s h, start_eq loc s h, absolute_eq loc s h]
  cases he : endTimes loc s with
  | error e => cases e <;> rfl
  | ok es =>
    cases hs : startTimes loc s with
    | error e => cases e <;> rfl
    | ok ss => simp [liftA, Except.map, bind, Except.bind, pure, Except.pure]

theorem sorted_empty : Sorted {} :=
  ⟨fun _ h => (List.not_mem_nil h).elim, fun _ h => (List.not_mem_nil h).elim, fun _ h => (List.not_mem_nil h).elim⟩

theorem abs_of_isAbsolute {a : VAlarm} (h : a.isAbsolute = true) : ∃ t, a.trigger = some t ∧ t.isAbs = true := by
  unfold VAlarm.isAbsolute at h
  split at h
  · exact ⟨_, ‹_›, h⟩
  · cases h

theorem rel_of_isStartRel {a : VAlarm} (h : a.isStartRel = true) : ∃ td, a.trigger = some (.rel td) := by
  unfold VAlarm.isStartRel at h
  split at h
  · rename_i td htr; exact ⟨td, htr⟩
  · cases h

theorem rel_of_isEndRel {a : VAlarm} (h : a.isEndRel = true) : ∃ td, a.trigger = some (.rel td) := by
  unfold VAlarm.isEndRel at h
  split at h
  · rename_i td htr; exact ⟨td, htr⟩
  · cases h

/-- `add_component` keeps the lists sorted: what it appends to each list is filtered by the list's own test -/
theorem sorted_addComponent (s : State) (h : Sorted s) (p : Parent) (start end_ : Option Trig) (alarms : List VAlarm) :
    Sorted (addComponent s p start end_ alarms) := by
  rw [addComponent_eq]
  exact ⟨fun a ha => (List.mem_append.mp ha).elim (h.abs a) (fun hf => abs_of_isAbsolute (List.mem_filter.mp hf).2),
    fun a ha => (List.mem_append.mp ha).elim (h.start a) (fun hf => rel_of_isStartRel (List.mem_filter.mp hf).2),
    fun a ha => (List.mem_append.mp ha).elim (h.end_ a) (fun hf => rel_of_isEndRel (List.mem_filter.mp hf).2)⟩

/-- every state that `Alarms(component)` produces is sorted -/
theorem sorted_ofComponent (p : Parent) (start end_ : Option Trig) (alarms : List VAlarm) : Sorted (ofComponent p start end_ alarms) :=
  sorted_addComponent {} sorted_empty p start end_ alarms

theorem add_alarm_eq (s : State) (a : VAlarm) :
    addAlarmP a s.absoluteAlarms s.startAlarms s.endAlarms =
      ((addAlarm s a).absoluteAlarms, (addAlarm s a).startAlarms, (addAlarm s a).endAlarms) := by
  unfold addAlarmP Alarms_add_alarm addAlarm
  cases ht : a.trigger with
  | none => simp [ht]
  | some t =>
    simp only [relatedIsStartP, ht]
    by_cases hab : t.isAbs = true
    · simp [hab]
    · by_cases hst : a.triggerRelated = START <;> simp [hab, hst]

theorem add_component_loop (as : List VAlarm) : ∀ (s : State),
    Alarms_add_component_loop1 (alarm_trigger := fun a => a.trigger) (trigger_is_date := TriggerV.isAbs)
        (related_is_start := relatedIsStartP) s.absoluteAlarms s.startAlarms s.endAlarms as =
      .ok ((as.foldl addAlarm s).absoluteAlarms, (as.foldl addAlarm s).startAlarms, (as.foldl addAlarm s).endAlarms) := by
  induction as with
  | nil => intro s; rfl
  | cons a as ih =>
    intro s
    rw [Alarms_add_component_loop1]
    have h := add_alarm_eq s a
    unfold addAlarmP at h
    simp only [h, List.foldl_cons]
    exact ih (addAlarm s a)

/-- the translated `Alarms.add_component` (with `set_parent`, `set_start`, `set_end`, `acknowledge_until`, `snooze_until`,
    `add_alarm`) is the model's `addComponent` -/
theorem add_component_eq (s : State) (par : Option CompView) (c : CompView) :
    alarmsAddComponentP c (fieldsOf s par) = .ok (fieldsOf (addComponent s c.parent c.start c.end_ c.alarms) (some c)) := by
  obtain ⟨p, st, en, as⟩ := c
  have hack : ∀ (o : Option Int) (la : Option Trig), Alarms_acknowledge_until (awareOpt o) la id = awareOpt o := by
    intro o la; cases o <;> rfl
  have hsn : ∀ (o : Option Int) (la : Option Trig), Alarms_snooze_until (awareOpt o) la id = awareOpt o := by
    intro o la; cases o <;> rfl
  have hpar : ∀ c : CompView, Alarms_set_parent c par (fun _ _ => false) = .ok (some c) := by
    intro c; cases par <;> rfl
  rw [addComponent_eq]
  unfold alarmsAddComponentP Alarms_add_component fieldsOf
  simp only [hack, hsn, hpar, add_component_loop, foldl_addAlarm, Alarms_set_start, Alarms_set_end, startP, endP]
  cases p.isThunderbird <;> cases st <;> cases en <;> rfl

theorem timesF_eq (loc : Int → Int) (s : State) (par : Option CompView) (h : Sorted s) :
    timesF loc s.localTz (fieldsOf s par) = liftA ((times loc s).map (List.map toATup)) :=
  times_eq loc s h

/-- the whole chain as translated - `add_component(c)` on a sorted state, then `times` - is the model's -/
theorem add_component_times (loc : Int → Int) (s : State) (par : Option CompView) (c : CompView) (h : Sorted s) :
    (alarmsAddComponentP c (fieldsOf s par) >>= timesF loc s.localTz) =
      liftA ((times loc (addComponent s c.parent c.start c.end_ c.alarms)).map (List.map toATup)) := by
  rw [add_component_eq]
  have hl : (addComponent s c.parent c.start c.end_ c.alarms).localTz = s.localTz := by rw [addComponent_eq]
  show timesF loc s.localTz (fieldsOf _ (some c)) = _
  rw [← hl]
  exact timesF_eq loc _ (some c) (sorted_addComponent s h _ _ _ _)

end ICal.Bodies
