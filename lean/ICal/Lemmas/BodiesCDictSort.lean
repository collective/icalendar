/-
  Equality of the regenerated `canonsort_keys` (ICal/Gen/BodiesCDictSort.lean, tools/py2lean.py: the dict
  comprehension over `enumerate(canonical_order or [])`, the two filtered comprehensions, `sorted(head, key=lambda k:
  canonical_map[k])` - keys computed first (KeyError possible), then a stable sort - and `sorted(tail)`) with the hand
  model `CDict.canonsort` of ICal/Model/CDict.lean.  In particular the call never raises: the key function is only
  applied to keys of the map.
-/
import ICal.Gen.BodiesCDictSort
import ICal.Lemmas.CDict
import ICal.Lemmas.PySorted
import ICal.Lemmas.BodiesRT
namespace ICal.Bodies
open ICal ICal.PyRT ICal.CDict ICal.Gen.BodiesCDictSort

/-- the runtime dict that corresponds to a store of the hand model (ints for naturals) -/
def dictOf (s : Store Nat) : PyDict := s.map (fun p => (p.1, (p.2 : Int)))

theorem pyDictSet_dictOf : ∀ (s : Store Nat) (k : Str) (i : Nat), pyDictSet (dictOf s) k (i : Int) = dictOf (odSet s k i)
  | [], k, i => rfl
  | (k', v') :: r, k, i => by
    simp only [dictOf, List.map_cons, pyDictSet, odSet] at *
    by_cases h : k' = k
    · simp [h]
    · simp only [h, if_false]
      have ih := pyDictSet_dictOf r k i
      simp only [dictOf] at ih
      rw [ih]; rfl

theorem pyDictOfEnumGo_dictOf : ∀ (l : List Str) (i : Nat) (s : Store Nat),
    pyDictOfEnumGo (i : Int) l (dictOf s) = dictOf (canonMapGo i l s)
  | [], i, s => rfl
  | k :: ks, i, s => by
    simp only [pyDictOfEnumGo, canonMapGo, pyDictSet_dictOf]
    have := pyDictOfEnumGo_dictOf ks (i + 1) (odSet s k i)
    simpa using this

theorem pyDictOfEnum_eq (l : List Str) : pyDictOfEnum l = dictOf (canonMap l) := by
  have := pyDictOfEnumGo_dictOf l 0 []
  simpa [pyDictOfEnum, canonMap, dictOf] using this

theorem pyDictFind_dictOf : ∀ (s : Store Nat) (k : Str), pyDictFind (dictOf s) k = (odGet s k).map (fun n => (n : Int))
  | [], k => rfl
  | (k', v) :: r, k => by
    simp only [dictOf, List.map_cons, pyDictFind, odGet]
    by_cases h : k' = k
    · simp [h]
    · simp only [h, if_false]
      exact pyDictFind_dictOf r k

theorem pyDictHas_dictOf (s : Store Nat) (k : Str) : pyDictHas (dictOf s) k = odHas s k := by
  simp only [pyDictHas, odHas, pyDictFind_dictOf]
  cases odGet s k <;> rfl

theorem pyDictGet_of_has (order : List Str) (k : Str) (h : odHas (canonMap order) k = true) :
    pyDictGet (dictOf (canonMap order)) k = .ok ((canonIdx order k : Nat) : Int) := by
  unfold odHas at h
  obtain ⟨n, hn⟩ := Option.isSome_iff_exists.1 h
  simp [pyDictGet, pyDictFind_dictOf, canonIdx, hn]

theorem zip_map_self {α β : Type} (g : α → β) : ∀ (l : List α), l.zip (l.map g) = l.map (fun a => (a, g a))
  | [] => rfl
  | x :: xs => by simp [zip_map_self g xs]

/-- decorate, sort by the key, undecorate = the stable sort by the key -/
theorem sortedByKey_eq (g : Str → Nat) (l : List Str) (f : Str → Py Int) (h : ∀ x ∈ l, f x = .ok ((g x : Nat) : Int)) :
    pySortedByIntKeyM f l = .ok (l.mergeSort (fun a b => decide (g a ≤ g b))) := by
  unfold pySortedByIntKeyM
  rw [mapM_ok f (fun x => ((g x : Nat) : Int)) l h]
  simp only [bind, Except.bind, pure, Except.pure, zip_map_self]
  congr 1
  have hm := List.map_mergeSort (r := fun (a b : Str × Int) => decide (a.2 ≤ b.2)) (s := fun (a b : Str) => decide (g a ≤ g b))
    (f := fun (p : Str × Int) => p.1) (l := l.map (fun a => (a, ((g a : Nat) : Int))))
    (by
      intro a ha b hb
      obtain ⟨x, _, rfl⟩ := List.mem_map.1 ha
      obtain ⟨y, _, rfl⟩ := List.mem_map.1 hb
      simp [Int.ofNat_le])
  rw [hm]
  congr 1
  simp [List.map_map, Function.comp_def]

/-- `sorted(..)` of strings is the stable merge sort by `<=` of the hand model (both are THE sorted permutation) -/
theorem pySortedStr_mergeSort (l : List Str) : pySortedStr l = l.mergeSort strLe := by
  rw [pySortedStr_eq]
  exact (mergeSort_eq strLe_trans strLe_total l _ (sortStr_perm l).symm (sortStr_sorted l)
    (fun a b _ _ => strLe_antisymm a b)).symm

theorem canonsort_keys_eq (keys : List Str) (order : Option (List Str)) :
    canonsort_keys keys order = .ok (canonsort keys (order.getD [])) := by
  have ho : pyListOrEmpty order = order.getD [] := by cases order <;> rfl
  unfold canonsort_keys canonsort
  simp only [ho, pyDictOfEnum_eq, pyDictHas_dictOf]
  rw [sortedByKey_eq (canonIdx (order.getD []))]
  · simp only [bind, Except.bind, pure, Except.pure, pySortedStr_mergeSort]
  · intro k hk
    have hh : odHas (canonMap (order.getD [])) k = true := (List.mem_filter.1 hk).2
    simp only [bind, Except.bind, pyDictGet_of_has _ k hh, pure, Except.pure]

end ICal.Bodies
