/-
  Component level of folding: several content lines, each folded, joined by CR LF and
  terminated by CR LF; unfolding the whole text and splitting it on line breaks restores
  the lines (`linesFromText_linesToIcal`).  `ICal.C06.lines_roundtrip` adds the byte-order mark and the empty lines.
-/
import ICal.Lemmas.Fold
import ICal.Lemmas.Text
namespace ICal

/-- a text before which `CR LF` is a genuine line break and not a fold: it is empty, or starts
    with a character that is none of SP, HT, LF, and whose successor is not LF (so a leading CR
    does not start another line break) -/
def okStart : Str → Prop
  | [] => True
  | c :: cs => c ≠ SP ∧ c ≠ HT ∧ c ≠ LF ∧ cs.head? ≠ some LF

theorem eatNL_okStart (t : Str) (h : okStart t) : eatNL t = none := by
  cases t with
  | nil => exact eatNL_nil
  | cons c cs => exact eatNL_none_of c cs h.2.2.1 (fun _ => h.2.2.2)

theorem okStart_head_ne_LF (t : Str) (h : okStart t) : t.head? ≠ some LF := by
  cases t with
  | nil => simp
  | cons c cs => simpa using h.2.2.1

theorem unfold_crlf_okStart (t : Str) (h : okStart t) :
    unfold (CR :: LF :: t) = CR :: LF :: unfold t :=
  (unfold_breaks_of_eatNL_none t (eatNL_okStart t h) (fun x rest e => by subst e; exact foldWs_not x h.1 h.2.1)).1

theorem unfold_crlf : unfold [CR, LF] = [CR, LF] := by
  have := unfold_crlf_okStart [] trivial
  rwa [unfold_nil] at this

theorem foldline_segs (l : Str) : ∃ segs, foldline l = joinSegs sep3 segs ∧ segs.flatten = l ∧
    (l ≠ [] → ∃ s0 rest, segs = s0 :: rest ∧ s0 ≠ []) := by
  obtain ⟨segs, h1, h2, _, h4⟩ := foldlineWith_segs Gen.foldLimit (by decide) Gen.foldSep l
  exact ⟨segs, by rw [← foldSep_eq]; exact h1, h2, h4⟩

/-- a folded non-empty line keeps its first character, and its second character is not LF
    (there is no fold before the first character: one character always fits) -/
theorem foldline_cons (c : Char) (cs : Str) (h : cs.head? ≠ some LF) :
    ∃ r, foldline (c :: cs) = c :: r ∧ r.head? ≠ some LF := by
  obtain ⟨segs, h1, h2, h3⟩ := foldline_segs (c :: cs)
  obtain ⟨s0, rest, rfl, hne⟩ := h3 (List.cons_ne_nil _ _)
  cases s0 with
  | nil => exact absurd rfl hne
  | cons d ds =>
    rw [List.flatten_cons, List.cons_append] at h2
    obtain ⟨rfl, rfl⟩ := List.cons.inj h2
    refine ⟨_, by rw [h1, joinSegs_cons_cons], ?_⟩
    cases ds with
    | nil =>
      cases rest with
      | nil => simp [joinSegs]
      | cons u us => simp [joinSegs, sep3, CR, LF]
    | cons e es => rw [joinSegs_cons_cons]; simpa using h

theorem head?_ne_of_not_mem {α : Type} {x : α} (l : List α) (h : x ∉ l) : l.head? ≠ some x :=
  fun e => h (List.mem_of_mem_head? e)

theorem okStart_foldline (l t : Str) (hne : l ≠ []) (hlf : LF ∉ l)
    (hsp : l.head? ≠ some SP) (hht : l.head? ≠ some HT) (ht : t.head? ≠ some LF) :
    okStart (foldline l ++ t) := by
  cases l with
  | nil => exact absurd rfl hne
  | cons c cs =>
    have hc : c ≠ LF := by intro e; apply hlf; simp [e]
    have hcs : LF ∉ cs := by intro e; apply hlf; simp [e]
    obtain ⟨r, hr, hr2⟩ := foldline_cons c cs (head?_ne_of_not_mem cs hcs)
    rw [hr]
    simp only [List.cons_append, okStart]
    refine ⟨by simpa using hsp, by simpa using hht, hc, ?_⟩
    cases r with
    | nil => simpa using ht
    | cons d ds => simpa using hr2

def body (ls : List Str) : Str := (ls.map (· ++ [CR, LF])).flatten

theorem body_cons (l : Str) (ls : List Str) : body (l :: ls) = l ++ CR :: LF :: body ls := by
  simp [body]

theorem joinWith_append_sep (sep : Str) : ∀ (fs : List Str), fs ≠ [] →
    joinWith sep fs ++ sep = (fs.map (· ++ sep)).flatten
  | [], h => absurd rfl h
  | [x], _ => by simp [joinWith]
  | x :: y :: rest, _ => by
    have ih := joinWith_append_sep sep (y :: rest) (by simp)
    simp only [joinWith, List.append_assoc]
    rw [ih]; simp

def RealLine (l : Str) : Prop := l ≠ [] ∧ LF ∉ l ∧ l.head? ≠ some SP ∧ l.head? ≠ some HT

theorem unfold_body (ls : List Str) (h : ∀ l ∈ ls, RealLine l) :
    okStart (body (ls.map foldline)) ∧ unfold (body (ls.map foldline)) = body ls := by
  induction ls with
  | nil => simp [body, okStart, unfold]
  | cons l ls ih =>
    obtain ⟨ihs, ihu⟩ := ih (fun x hx => h x (by simp [hx]))
    obtain ⟨hne, hlf, hsp, hht⟩ := h l (by simp)
    simp only [List.map_cons, body_cons]
    refine ⟨okStart_foldline l _ hne hlf hsp hht (by simp [CR, LF]), ?_⟩
    obtain ⟨segs, h1, h2, _⟩ := foldline_segs l
    rw [h1, unfold_join_append segs _ (not_mem_of_flatten h2 hlf) (by simp [CR, LF]), unfold_crlf_okStart _ ihs, h2, ihu]

theorem splitNewline_nil : splitNewline [] = [[]] := by rw [splitNewline]

theorem splitNewline_lf (cs : Str) : splitNewline (LF :: cs) = [] :: splitNewline cs := by
  rw [splitNewline]; simp

theorem splitNewline_crlf (cs : Str) : splitNewline (CR :: LF :: cs) = [] :: splitNewline cs := by
  rw [splitNewline]; simp [CR, LF]

/-- induction along the splitter: a line break (LF or CR LF) or one copied character -/
theorem splitNewline_cases {P : Str → Prop} (hnil : P []) (hlf : ∀ cs, P cs → P (LF :: cs))
    (hcrlf : ∀ cs, P cs → P (CR :: LF :: cs))
    (hcopy : ∀ c cs, c ≠ LF → ¬ (c = CR ∧ cs.head? = some LF) → P cs → P (c :: cs)) : ∀ t, P t := by
  intro t
  induction t using splitNewline.induct with
  | case1 => exact hnil
  | case2 cs ih => exact hlf cs ih
  | case3 c cs h1 h2 ih =>
    obtain ⟨rfl, h3⟩ := h2
    cases cs with
    | nil => cases h3
    | cons d ds => cases h3; exact hcrlf ds ih
  | case4 c cs h1 h2 _ ih => exact hcopy c cs h1 h2 ih
  | case5 c cs h1 h2 _ _ _ ih => exact hcopy c cs h1 h2 ih

theorem splitNewline_ne_nil (w : Str) : splitNewline w ≠ [] := by
  cases w with
  | nil => rw [splitNewline_nil]; simp
  | cons c cs =>
    rw [splitNewline]; split
    · simp
    · split
      · simp
      · split <;> simp

theorem splitNewline_copy (c : Char) (cs : Str) (h1 : c ≠ LF) (h2 : ¬ (c = CR ∧ cs.head? = some LF)) :
    splitNewline (c :: cs) = consHd [c] (splitNewline cs) := by
  rw [splitNewline, if_neg h1, if_neg h2]; cases splitNewline cs <;> rfl

theorem getLast?_cons_of {c d : Char} {cs : Str} (h : cs.getLast? = some d) : (c :: cs).getLast? = some d := by
  rw [List.getLast?_cons, h]; rfl

/-- appending `v` to `w` continues the last line of `w`, unless a CR at the end of `w` and an LF at
    the start of `v` become one line break -/
theorem splitNewline_append (w : Str) : ∃ init last, splitNewline w = init ++ [last] ∧
    ∀ v, (w.getLast? = some CR → v.head? ≠ some LF) →
      splitNewline (w ++ v) = init ++ consHd last (splitNewline v) := by
  induction w using splitNewline_cases with
  | hnil =>
    refine ⟨[], [], splitNewline_nil, fun v _ => ?_⟩
    cases h : splitNewline v with
    | nil => exact absurd h (splitNewline_ne_nil v)
    | cons y ys => rw [List.nil_append, h]; rfl
  | hlf cs ih =>
    obtain ⟨init, last, h1, h2⟩ := ih
    refine ⟨[] :: init, last, by rw [splitNewline_lf, h1]; rfl, fun v hv => ?_⟩
    rw [List.cons_append, splitNewline_lf, h2 v (fun e => hv (getLast?_cons_of e))]; rfl
  | hcrlf cs ih =>
    obtain ⟨init, last, h1, h2⟩ := ih
    refine ⟨[] :: init, last, by rw [splitNewline_crlf, h1]; rfl, fun v hv => ?_⟩
    rw [List.cons_append, List.cons_append, splitNewline_crlf,
      h2 v (fun e => hv (getLast?_cons_of (getLast?_cons_of e)))]; rfl
  | hcopy c cs h1 h2 ih =>
    obtain ⟨init, last, e1, e2⟩ := ih
    have h2' : ∀ v, ((c :: cs).getLast? = some CR → v.head? ≠ some LF) →
        ¬ (c = CR ∧ (cs ++ v).head? = some LF) := by
      intro v hv
      cases cs with
      | nil => exact fun ⟨e, hd⟩ => hv (by rw [e]; rfl) hd
      | cons d ds => exact h2
    have step : ∀ v, ((c :: cs).getLast? = some CR → v.head? ≠ some LF) →
        splitNewline (c :: cs ++ v) = consHd [c] (init ++ consHd last (splitNewline v)) := by
      intro v hv
      rw [List.cons_append, splitNewline_copy c _ h1 (h2' v hv), e2 v (fun e => hv (getLast?_cons_of e))]
    rw [splitNewline_copy c cs h1 h2, e1]
    cases init with
    | nil =>
      refine ⟨[], c :: last, rfl, fun v hv => ?_⟩
      rw [step v hv]; exact consHd_consHd [c] last _
    | cons i is => exact ⟨(c :: i) :: is, last, rfl, fun v hv => step v hv⟩

theorem splitNewline_append_crlf (v w : Str) :
    splitNewline (w ++ CR :: LF :: v) = splitNewline w ++ splitNewline v := by
  obtain ⟨init, last, h1, h2⟩ := splitNewline_append w
  rw [h2 (CR :: LF :: v) (fun _ e => absurd (Option.some.inj e) (by decide)), splitNewline_crlf, h1]
  simp [consHd]

theorem splitNewline_append_lf (v w : Str) (h : w.getLast? ≠ some CR) :
    splitNewline (w ++ LF :: v) = splitNewline w ++ splitNewline v := by
  obtain ⟨init, last, h1, h2⟩ := splitNewline_append w
  rw [h2 _ (fun e => absurd e h), splitNewline_lf, h1]
  simp [consHd]

theorem splitNewline_plain_line (l : Str) (h : LF ∉ l) : splitNewline l = [l] := by
  induction l with
  | nil => exact splitNewline_nil
  | cons c cs ih =>
    have hc : c ≠ LF := by intro e; apply h; simp [e]
    have hcs : LF ∉ cs := by intro e; apply h; simp [e]
    have h2 : ¬ (c = CR ∧ cs.head? = some LF) := by
      intro ⟨_, e⟩
      cases cs with
      | nil => simp at e
      | cons d ds => simp at e; apply hcs; simp [e]
    rw [splitNewline_copy c cs hc h2, ih hcs]; rfl

theorem splitNewline_line (l t : Str) (h : LF ∉ l) :
    splitNewline (l ++ CR :: LF :: t) = l :: splitNewline t := by
  rw [splitNewline_append_crlf, splitNewline_plain_line l h]; rfl

theorem splitNewline_body (ls : List Str) (h : ∀ l ∈ ls, LF ∉ l) :
    splitNewline (body ls) = ls ++ [[]] := by
  induction ls with
  | nil => simp [body, splitNewline]
  | cons l ls ih =>
    rw [body_cons, splitNewline_line l _ (h l (by simp)), ih (fun x hx => h x (by simp [hx]))]
    rfl

theorem linesToIcal_filter (ls : List Str) :
    linesToIcal (ls.filter (fun l => !l.isEmpty)) = linesToIcal ls := by
  unfold linesToIcal
  rw [List.filter_filter]
  simp

theorem linesFromText_linesToIcal (ls : List Str) (h : ∀ l ∈ ls, RealLine l) :
    linesFromText (linesToIcal ls) = ls := by
  have hne : ls.filter (fun l => !l.isEmpty) = ls :=
    List.filter_eq_self.mpr (fun l hl => by simpa using (h l hl).1)
  unfold linesFromText linesToIcal
  rw [hne]
  cases ls with
  | nil =>
    show (splitNewline (unfold [CR, LF])).filter _ = []
    rw [unfold_crlf, splitNewline_crlf, splitNewline_nil]; rfl
  | cons k ks =>
    -- the text is `body` of the folded lines: unfolding gives `body` of the lines,
    -- splitting gives the lines and a last empty one
    rw [joinWith_append_sep [CR, LF] _ (by simp)]
    show (splitNewline (unfold (body ((k :: ks).map foldline)))).filter _ = _
    rw [(unfold_body _ h).2, splitNewline_body _ (fun l hl => (h l hl).2.1), List.filter_append, hne]
    exact List.append_nil _

theorem stripBOM_linesToIcal (ls : List Str) (h : ∀ l ∈ ls, l.head? ≠ some BOM ∧ LF ∉ l) :
    stripBOM (linesToIcal ls) = linesToIcal ls := by
  unfold linesToIcal
  cases hk : ls.filter (fun l => !l.isEmpty) with
  | nil => simp [joinWith, stripBOM, CR, BOM]
  | cons k ks =>
    have hkm : k ∈ ls.filter (fun l => !l.isEmpty) := by rw [hk]; simp
    rw [List.mem_filter] at hkm
    obtain ⟨hb, hlf⟩ := h k hkm.1
    cases k with
    | nil => simp at hkm
    | cons c cs =>
      have hc : c ≠ BOM := by simpa using hb
      have hcs : cs.head? ≠ some LF := by
        cases cs with
        | nil => simp
        | cons d ds => simp; intro e; apply hlf; simp [e]
      obtain ⟨r, hr, _⟩ := foldline_cons c cs hcs
      simp only [List.map_cons, hr]
      cases ks with
      | nil => simp [joinWith, stripBOM, hc]
      | cons k2 ks2 => simp [joinWith, stripBOM, hc]

end ICal
