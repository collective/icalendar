/-
  Equality of the regenerated `_get_start_end_duration`, `.start`, `.end` (calling the translated checks) and `.duration`
  of cal.Event / cal.Todo (ICal/Gen/BodiesSE.lean, tools/py2lean.py: the four InvalidCalendar checks with their
  `and` chains - `isinstance(start, date) and not isinstance(start, datetime) and duration is not None and
  duration.seconds != 0`, `(start.tzinfo is None) != (end.tzinfo is None)` evaluated only for two datetimes -, the tuple
  the checks return and its use by index and by unpacking, IncompleteComponent, `self.end - self.start` with end first)
  with the hand model `getSED`, `getStart`, `getEnd`, `getDuration` of ICal/Model/StartEnd.lean.  The external pieces are
  those of ICal/Model/SEPieces.lean.
-/
import ICal.Model.SEPieces
import ICal.Lemmas.StartEnd
import ICal.Lemmas.BodiesSE
import ICal.Lemmas.BodiesRT
namespace ICal.Bodies
open ICal ICal.PyRT ICal.SE ICal.Gen.BodiesSE ICal.PyRT.SEOps

/-! cal.py writes out `_get_start_end_duration`, `start`, `end` and `duration` once in Event and once in Todo, DTEND / DUE
    being the only difference.  The descriptors are parameters here, so each pair of translations is one term, and the
    functions of ICal/Model/SEPieces.lean are Event's whatever the class. -/

theorem seSedP_event (c : Cls) (a b : Py (Option SE.Val)) (d : Py (Option Int)) :
    seSedP c a b d = Event_get_start_end_duration a b d := by cases c <;> rfl
theorem seStartP_event (c : Cls) (a b : Py (Option SE.Val)) (d : Py (Option Int)) :
    seStartP c a b d = Event_start a b d := by cases c <;> rfl
theorem seEndP_event (c : Cls) (a b : Py (Option SE.Val)) (d : Py (Option Int)) :
    seEndP c a b d = Event_end_full a b d := by cases c <;> rfl
theorem seDurationP_event (p : Prov) (c : Cls) (a b : Py (Option SE.Val)) (d : Py (Option Int)) :
    seDurationP p c a b d = Event_duration a b d (fun x y => seLift (SE.Val.sub p x y)) := by cases c <;> rfl


/-- `isinstance(start, date) and not isinstance(start, datetime) and ...` -/
theorem isDT_not_datetime_and (v : SE.Val) (b : Bool) : (v.isDT && (!v.isDatetime && b)) = (v.isDate && b) := by
  cases v <;> rfl

theorem dateWithTime_some (v : SE.Val) (x : Int) :
    dateWithTime (some v) (some x) = (v.isDate && x % 86400 != 0) := by
  cases v <;> rfl

theorem dateWithTime_no_dur (st : Option SE.Val) : dateWithTime st none = false := by
  cases st with
  | none => rfl
  | some v => cases v <;> rfl

/-- `.tzinfo` is asked of datetimes only, so the AttributeError of `tzinfoIsNone` is never met -/
theorem tzinfoIsNone_datetime {v : SE.Val} (h : v.isDatetime = true) : tzinfoIsNone v = .ok v.isFloating := by
  cases v <;> cases h <;> rfl

/-- the checks on three values the descriptors returned -/
theorem event_checks (st en : Option SE.Val) (du : Option Int) :
    Event_get_start_end_duration (dtstart := .ok st) (dtend := .ok en) (duration_prop := .ok du) =
      (if forbidden st en du then .error .invalidCalendar else .ok (st, en, du)) := by
  unfold Event_get_start_end_duration
  cases du with
  | some x =>
    cases en with
    | some b => rfl
    | none =>
      cases st with
      | none => rfl
      | some a =>
        simp [forbidden, kindMismatch, tzMismatch, dateWithTime_some, isDT_not_datetime_and, pyMod, bind, Except.bind,
          pure, Except.pure, throw_eq]
  | none =>
    cases st with
    | none => cases en <;> rfl
    | some a =>
      cases en with
      | none => simp [forbidden, kindMismatch, tzMismatch, dateWithTime_no_dur, bind, Except.bind, pure, Except.pure]
      | some b =>
        simp only [forbidden, kindMismatch, tzMismatch, dateWithTime_no_dur, se_is_date_eq, Bool.and_false, Option.isSome,
          Bool.false_or, Bool.false_and, bind, Except.bind, pure, Except.pure, throw_eq]
        -- what is left: the kinds agree, and for two datetimes so does `tzinfo is None`
        by_cases hk : a.isDate = b.isDate
        · by_cases ha : a.isDatetime = true
          · by_cases hb : b.isDatetime = true
            · simp [hk, ha, hb, tzinfoIsNone_datetime]
            · simp [hk, ha, hb]
          · simp [hk, ha]
        · simp [hk]

/-- an Event or a Todo -/
def seHasEnd : Cls → Bool
  | .journal => false
  | _ => true

theorem ne_journal_of_hasEnd {c : Cls} (hc : seHasEnd c = true) : c ≠ .journal := by
  rintro rfl; cases hc

theorem checks_lift (a b : Except SE.Err (Option SE.Val)) (d : Except SE.Err (Option Int)) :
    Event_get_start_end_duration (seLift a) (seLift b) (seLift d) =
      seLift (do
        let st ← a
        let en ← b
        let du ← d
        if forbidden st en du then .error .invalidCalendar else .ok (st, en, du)) := by
  cases a with
  | error e => rfl
  | ok st =>
    cases b with
    | error e => rfl
    | ok en =>
      cases d with
      | error e => rfl
      | ok du =>
        show Event_get_start_end_duration (.ok st) (.ok en) (.ok du) =
          seLift (if forbidden st en du then .error .invalidCalendar else .ok (st, en, du))
        rw [event_checks]
        cases forbidden st en du <;> rfl

theorem event_sed_eq (c : Cls) (s : St) :
    Event_get_start_end_duration (seLift (getProp s.dtstart)) (seLift (getProp (s.get (endKey c)))) (seLift (getDur s.duration)) =
      seLift (getSED c s) :=
  checks_lift _ _ _

theorem sed_eq (c : Cls) (s : St) :
    seSedP c (seLift (getProp s.dtstart)) (seLift (getProp (s.get (endKey c)))) (seLift (getDur s.duration)) = seLift (getSED c s) := by
  rw [seSedP_event]; exact event_sed_eq c s

theorem start_eq_se (c : Cls) (hc : seHasEnd c = true) (s : St) :
    seStartP c (seLift (getProp s.dtstart)) (seLift (getProp (s.get (endKey c)))) (seLift (getDur s.duration)) = seLift (getStart c s) := by
  rw [seStartP_event, getStart_eq (ne_journal_of_hasEnd hc)]; unfold Event_start; rw [event_sed_eq]
  cases getSED c s with
  | error e => rfl
  | ok r =>
    obtain ⟨st, en, du⟩ := r
    cases st <;> rfl

theorem liftSE_eq_seLift (x : Except SE.Err SE.Val) : liftSE x = seLift (x.map some) := by
  cases x with
  | ok v => rfl
  | error e => cases e <;> rfl

theorem Event_end_full_eq (a b : Py (Option SE.Val)) (d : Py (Option Int)) :
    Event_end_full a b d = Event_get_start_end_duration a b d >>= fun t => Event_end t.1 t.2.1 t.2.2 := rfl

/-- the translated `.end` (calling the translated checks) is the model's `getEnd` -/
theorem end_eq_se (c : Cls) (hc : seHasEnd c = true) (s : St) :
    seEndP c (seLift (getProp s.dtstart)) (seLift (getProp (s.get (endKey c)))) (seLift (getDur s.duration)) =
      seLift ((getEnd c s).map some) := by
  rw [seEndP_event, Event_end_full_eq, event_sed_eq, getEnd_eq (ne_journal_of_hasEnd hc)]
  cases getSED c s with
  | error e => rfl
  | ok r =>
    obtain ⟨st, en, du⟩ := r
    show Event_end st en du = _
    rw [Event_end_eq, liftSE_eq_seLift]
    rfl

/-- the translated `.duration` (`self.end - self.start`, end first) is the model's `getDuration` -/
theorem duration_eq_se (p : Prov) (c : Cls) (hc : seHasEnd c = true) (s : St) :
    seDurationP p c (seLift (getProp s.dtstart)) (seLift (getProp (s.get (endKey c)))) (seLift (getDur s.duration)) =
      seLift (getDuration p c s) := by
  have he := end_eq_se c hc s
  have hs := start_eq_se c hc s
  rw [seEndP_event] at he
  rw [seStartP_event] at hs
  rw [seDurationP_event]; unfold Event_duration
  rw [he, hs, getDuration_eq (ne_journal_of_hasEnd hc)]
  cases getEnd c s with
  | error e => rfl
  | ok e => cases getStart c s <;> rfl

end ICal.Bodies
