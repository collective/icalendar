/-
  Equality of the regenerated `vDDDTypes.__init__` (ICal/Gen/BodiesAdd.lean, tools/py2lean.py: the chain of instance tests
  on the union `PyDDD` - datetime / timedelta, date, time, else a tuple -, the time zone of the START of a period, the
  zone of a datetime or a time, `tzid is not None and tzid != 'UTC'`) with the hand model `atomParams` / `periodParamsDDD`
  of ICal/Model/Encode.lean.  The time zone of a datetime is not among the fields of `PyDateTime`: it comes back through
  the parameter for `tzid_from_dt` (`TzOfAtom`).  Pieces: ICal/Model/AddPieces.lean.
-/
import ICal.Model.AddPieces
namespace ICal.Bodies
open ICal ICal.PyRT ICal.Enc ICal.Gen.BodiesAdd

/-- `tzid_from_dt` gives the model's time zone id of a datetime, and none for a naive time -/
def TzOfAtom (tz : PyDDD → Option Str) : PyAtom → Prop
  | .dt t => tz (atomObjE (.dt t)) = t.tzid
  | .time t => tz (atomObjE (.time t)) = none
  | _ => True

/-- the translated `vDDDTypes.__init__` on one object derives the model's `atomParams` -/
theorem ddd_init_atom (tz : PyDDD → Option Str) (a : PyAtom) (h : TzOfAtom tz a) :
    dddInitParamsP tz (atomObjE a) = atomParams a := by
  unfold dddInitParamsP vDDDTypes_init
  cases a with
  | date d => simp [atomObjE, atomParams, kVALUE]
  | dur s => simp [atomObjE, atomParams]
  | time t =>
    simp only [TzOfAtom, atomObjE] at h
    simp [atomObjE, atomParams, h, kVALUE]
  | dt t =>
    simp only [TzOfAtom, atomObjE] at h
    simp only [atomObjE, atomParams, tzParamDDD, h]
    cases ht : t.tzid with
    | none => simp
    | some z => by_cases hz : z = ['U', 'T', 'C'] <;> simp [hz, UTC, kTZID]

/-- on a pair (a period) it derives the model's `periodParamsDDD`: VALUE=PERIOD and the zone of a datetime start -/
theorem ddd_init_period (tz : PyDDD → Option Str) (a b : PyAtom) (h : TzOfAtom tz a) :
    dddInitParamsP tz (.period (atomObjE a) (atomObjE b)) = periodParamsDDD a := by
  unfold dddInitParamsP vDDDTypes_init
  cases a with
  | date d => simp [atomObjE, periodParamsDDD, kVALUE]
  | dur s => simp [atomObjE, periodParamsDDD, kVALUE]
  | time t => simp [atomObjE, periodParamsDDD, kVALUE]
  | dt t =>
    simp only [TzOfAtom, atomObjE] at h
    simp only [atomObjE, periodParamsDDD, tzParamDDD, h]
    cases ht : t.tzid with
    | none => simp [kVALUE]
    | some z => by_cases hz : z = ['U', 'T', 'C'] <;> simp [hz, UTC, kTZID, kVALUE]

end ICal.Bodies
