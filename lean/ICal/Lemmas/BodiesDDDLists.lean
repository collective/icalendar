/-
  Equality of the regenerated `vDDDLists.__init__` (ICal/Gen/BodiesAdd.lean, tools/py2lean.py) with the hand model of
  ICal/Model/Encode.lean (`listParams`, `mkDDD`): an argument without `__iter__` is wrapped in a list; every element goes
  through `vDDDTypes(..)` (the first exception ends it); TZID is that of the LAST element that has one and is set only when
  it is true; `values = {dt.params.get('VALUE') for dt in vDDD}` is a Python set (`pyDedup`): VALUE is set when the set has
  exactly one element and that is not None (`values.pop()` of a one-element set).  Pieces: ICal/Model/AddPieces.lean.
-/
import ICal.Model.AddPieces
namespace ICal.Bodies
open ICal ICal.PyRT ICal.Enc ICal.Gen.BodiesAdd

theorem mem_pyDedup {α : Type} [BEq α] [LawfulBEq α] (y : α) : ∀ (l : List α), y ∈ pyDedup l ↔ y ∈ l := by
  intro l
  induction l with
  | nil => simp [pyDedup]
  | cons x xs ih =>
    simp only [pyDedup, List.mem_cons, List.mem_filter, ih]
    by_cases h : y = x <;> simp [h]

/-- a set of one element that is not None: every value is that element -/
theorem dedup_uniform (l : List (Option PVal)) :
    (((pyDedup l).length : Int) == 1 && !((pyDedup l).contains none)) =
      (uniformValue l).isSome ∧
    ((uniformValue l).isSome = true → pyDedup l = [uniformValue l]) := by
  cases l with
  | nil => simp [pyDedup, uniformValue]
  | cons v rest =>
    have hall : ((pyDedup rest).filter (fun y => !(y == v)) = []) ↔ rest.all (fun y => y == v) = true := by
      simp [List.filter_eq_nil_iff, mem_pyDedup]
    simp only [pyDedup, uniformValue, List.length_cons]
    by_cases hr : rest.all (fun y => y == v) = true
    · have hf := hall.2 hr
      cases v with
      | none => simp
      | some x => simp [hf, hr]
    · have hlen : ((pyDedup rest).filter (fun y => !(y == v))).length ≠ 0 :=
        fun h => hr (hall.1 (List.length_eq_zero_iff.mp h))
      have hr' : rest.all (fun y => y == v) = false := by simpa using hr
      constructor
      · simp [hr']
        omega
      · simp [hr']

theorem liftEnc_ok {α : Type} (v : α) : liftEnc (Except.ok v : Res α) = Except.ok v := rfl

def stepTz (t : Option PVal) (v : Val) : Option PVal := if hasTzidL v then some (tzidOfL v) else t

/-- any function with the two equations of the translated loop (the translator emits one copy per call site) -/
theorem init_loop {loop : List Val → Option PVal → List PyVal → Py (List Val × Option PVal)}
    (hnil : ∀ acc tz, loop acc tz [] = pure (acc, tz))
    (hcons : ∀ acc tz x xs, loop acc tz (x :: xs) = liftEnc (mkDDD x) >>= fun v => loop (acc ++ [v]) (stepTz tz v) xs)
    (xs : List PyVal) : ∀ (acc : List Val) (tz : Option PVal),
    loop acc tz xs = liftEnc ((Enc.mapRes mkDDD xs).map (fun vs => (acc ++ vs, vs.foldl stepTz tz))) := by
  induction xs with
  | nil => intro acc tz; simp [hnil, Enc.mapRes, Except.map, liftEnc, pure, Except.pure]
  | cons x xs ih =>
    intro acc tz
    rw [hcons]
    simp only [Enc.mapRes]
    cases mkDDD x with
    | error e => cases e <;> rfl
    | ok v =>
      simp only [liftEnc_ok, bind, Except.bind]
      rw [ih]
      cases Enc.mapRes mkDDD xs with
      | error e => cases e <;> rfl
      | ok vs => simp [Except.map, liftEnc]

theorem foldl_stepTz (vs : List Val) : ∀ (t : Option PVal), vs.foldl stepTz t = (lastTzid vs).or t := by
  induction vs with
  | nil => intro t; simp [lastTzid]
  | cons v vs ih =>
    intro t
    simp only [List.foldl_cons, ih, lastTzid, List.reverse_cons, List.findSome?_append, List.findSome?_cons, List.findSome?_nil]
    unfold stepTz hasTzidL tzidOfL
    cases h1 : List.findSome? (fun v => Params.get? v.params kTZID) vs.reverse with
    | some z => simp
    | none =>
      cases h2 : Params.get? v.params kTZID with
      | none => simp
      | some z => simp

/-- what `__init__` does after its loop, on the loop's result: VALUE when all the wrapped objects carry one and the same,
    the TZID of the last one that has one if it is true (the two keys as the translator writes them) -/
theorem init_params (vs : List Val) :
    ((if (((pyDedup (vs.map valueOfL)).length : Int) == 1 && !((pyDedup (vs.map valueOfL)).contains none)) then
        (setPopOnly (pyDedup (vs.map valueOfL)) >>= fun t => (pure (paramsSetL [] ['V', 'A', 'L', 'U', 'E'] t) : Py Params))
      else pure []) >>= fun ps =>
      (pure (if tzidTruthyL (vs.foldl stepTz none) then paramsSetL ps ['T', 'Z', 'I', 'D'] (vs.foldl stepTz none) else ps, vs) :
        Py (Params × List Val))) =
      .ok (listParams vs, vs) := by
  have e1 : ['V', 'A', 'L', 'U', 'E'] = kVALUE := String.toList_ofList.symm
  have e2 : ['T', 'Z', 'I', 'D'] = kTZID := String.toList_ofList.symm
  have hd := dedup_uniform (vs.map valueOfL)
  have hv : vs.map valueOfL = vs.map (fun v => Params.get? v.params kVALUE) := rfl
  rw [foldl_stepTz, Option.or_none, e1, e2]
  simp only [hd.1]
  unfold listParams
  rw [← hv]
  cases hu : uniformValue (vs.map valueOfL) with
  | none =>
    simp only [Option.isSome_none, Bool.false_eq_true, if_false, bind, Except.bind, pure, Except.pure]
    cases hl : lastTzid vs with
    | none => simp [tzidTruthyL]
    | some z => cases hz : Enc.truthy z <;> simp [tzidTruthyL, hz, paramsSetL, Params.put]
  | some x =>
    have := hd.2 (by simp [hu])
    simp only [this, hu, Option.isSome_some, if_true, setPopOnly, bind, Except.bind, pure, Except.pure, paramsSetL, Params.put]
    cases hl : lastTzid vs with
    | none => simp [tzidTruthyL]
    | some z =>
      have hk : (kVALUE == kTZID) = false := by decide +kernel
      cases hz : Enc.truthy z <;> simp [tzidTruthyL, hz, hk]

/-- the translated `vDDDLists.__init__` on an iterable: the model's `listParams` of the wrapped objects -/
theorem ddd_lists_init_many (xs : List PyVal) :
    dddListsInitP (.many xs) = liftEnc ((Enc.mapRes mkDDD xs).map (fun vs => (listParams vs, vs))) := by
  unfold dddListsInitP vDDDLists_init
  simp only []
  rw [init_loop (loop := vDDDLists_init_loop2 _ hasTzidL tzidOfL) (fun _ _ => rfl) (fun _ _ _ _ => rfl)]
  cases Enc.mapRes mkDDD xs with
  | error e => cases e <;> rfl
  | ok vs => exact init_params vs

/-- the translated `vDDDLists.__init__` on an object that is no iterable: it is wrapped in a list, and from there on the
    two branches of the translation are the same text -/
theorem ddd_lists_init_one (v : PyVal) :
    dddListsInitP (.one v) = liftEnc ((Enc.mapRes mkDDD [v]).map (fun vs => (listParams vs, vs))) := by
  rw [← ddd_lists_init_many]
  unfold dddListsInitP vDDDLists_init
  simp only []
  rw [init_loop (loop := vDDDLists_init_loop1 _ hasTzidL tzidOfL) (fun _ _ => rfl) (fun _ _ _ _ => rfl),
    init_loop (loop := vDDDLists_init_loop2 _ hasTzidL tzidOfL) (fun _ _ => rfl) (fun _ _ _ _ => rfl)]

end ICal.Bodies
