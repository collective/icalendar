/- Facts about `if`, `Option` and `List.flatMap` that mention nothing of the model: peeling one branch off an if-chain,
   `orElse`, `isSome`, congruence of `flatMap` on the members of the list. -/
namespace ICal

theorem of_ite_eq {α : Type} {c : Prop} [Decidable c] {a b r : α} {P : Prop} (h : (if c then a else b) = r)
    (ht : c → a = r → P) (he : ¬c → b = r → P) : P := by
  by_cases hc : c
  · exact ht hc (by rwa [if_pos hc] at h)
  · exact he hc (by rwa [if_neg hc] at h)

theorem orElse_some {α : Type} {a b : Option α} {v : α} (h : (a.orElse fun _ => b) = some v) :
    a = some v ∨ b = some v := by
  cases a with
  | none => exact Or.inr h
  | some x => exact Or.inl h

theorem isSome_disjoint {α β : Type} {a : Option α} {b : Option β} (h : ∀ x y, a = some x → b = some y → False)
    (ha : a.isSome = true) : b.isSome = false := by
  obtain ⟨x, hx⟩ := Option.isSome_iff_exists.1 ha
  cases hb : b with
  | none => rfl
  | some y => exact (h x y hx hb).elim

theorem flatMap_congr {α β : Type} {l : List α} {f g : α → List β} (h : ∀ a ∈ l, f a = g a) :
    l.flatMap f = l.flatMap g := by
  rw [List.flatMap_def, List.flatMap_def, List.map_congr_left h]

end ICal
