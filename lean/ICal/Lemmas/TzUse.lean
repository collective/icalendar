/-
  Helper lemmas for C18 (and for the `sorted(..)` of C10, C17): sets as sorted duplicate-free lists,
  uniqueness of the sorted list, the scan of TZID parameters, and the effect of appending generated
  VTIMEZONEs.
-/
import ICal.Lemmas.Walk
import ICal.Lemmas.CDict
import ICal.Model.TzUse
namespace ICal

open List

theorem mem_dedup : ∀ (l : List Str) (k : Str), k ∈ dedup l ↔ k ∈ l
  | [], _ => by simp [dedup]
  | x :: xs, k => by
    simp only [dedup]
    split
    · next h =>
      rw [mem_dedup xs k, List.mem_cons]
      exact (or_iff_right_of_imp fun e => e ▸ List.contains_iff_mem.1 h).symm
    · rw [List.mem_cons, List.mem_cons, mem_dedup xs k]

theorem dedup_nodup : ∀ (l : List Str), (dedup l).Nodup
  | [] => by simp [dedup]
  | x :: xs => by
    simp only [dedup]
    split
    · exact dedup_nodup xs
    · next h =>
      have hx : x ∉ xs := by simpa using h
      exact List.nodup_cons.2 ⟨fun hm => hx ((mem_dedup xs x).1 hm), dedup_nodup xs⟩

theorem insertSorted_perm (k : Str) : ∀ (l : List Str), (insertSorted k l).Perm (k :: l)
  | [] => by simp [insertSorted]
  | x :: xs => by
    simp only [insertSorted]
    split
    · exact ((insertSorted_perm k xs).cons x).trans (Perm.swap _ _ _)
    · exact Perm.refl _

theorem sortStr_perm : ∀ (l : List Str), (sortStr l).Perm l
  | [] => by simp [sortStr]
  | x :: xs => by
    simp only [sortStr, List.foldr_cons]
    exact (insertSorted_perm x _).trans ((sortStr_perm xs).cons x)

theorem mem_toSet (l : List Str) (k : Str) : k ∈ toSet l ↔ k ∈ l := by
  rw [toSet, (sortStr_perm _).mem_iff, mem_dedup]

theorem toSet_nodup (l : List Str) : (toSet l).Nodup :=
  (sortStr_perm _).symm.nodup (dedup_nodup l)

theorem insertSorted_sorted (k : Str) : ∀ (l : List Str), l.Pairwise (fun a b => strLe a b = true) →
    (insertSorted k l).Pairwise (fun a b => strLe a b = true)
  | [], _ => by simp [insertSorted]
  | x :: xs, h => by
    have hx := List.pairwise_cons.1 h
    simp only [insertSorted]
    split
    · next hlt =>
      refine List.pairwise_cons.2 ⟨?_, insertSorted_sorted k xs hx.2⟩
      intro b hb
      rcases List.mem_cons.1 ((insertSorted_perm k xs).mem_iff.1 hb) with rfl | hb'
      · unfold strLe; rw [strLt_asymm x b hlt]; rfl
      · exact hx.1 b hb'
    · next hnlt =>
      have hkx : strLe k x = true := by unfold strLe; simpa using hnlt
      refine List.pairwise_cons.2 ⟨?_, h⟩
      intro b hb
      rcases List.mem_cons.1 hb with rfl | hb'
      · exact hkx
      · exact strLe_trans k x b hkx (hx.1 b hb')

theorem sortStr_sorted : ∀ (l : List Str), (sortStr l).Pairwise (fun a b => strLe a b = true)
  | [] => List.Pairwise.nil
  | x :: xs => insertSorted_sorted x _ (sortStr_sorted xs)

theorem sortStr_perm_eq (a b : List Str) (h : a.Perm b) : sortStr a = sortStr b :=
  List.Perm.eq_of_pairwise (fun x y _ _ h1 h2 => strLe_antisymm x y h1 h2) (sortStr_sorted a)
    (sortStr_sorted b) ((sortStr_perm a).trans (h.trans (sortStr_perm b).symm))

theorem sortStr_of_sorted (a : List Str) (h : a.Pairwise (fun a b => strLe a b = true)) : sortStr a = a :=
  List.Perm.eq_of_pairwise (fun x y _ _ h1 h2 => strLe_antisymm x y h1 h2) (sortStr_sorted a) h
    (sortStr_perm a)

/-- two duplicate-free lists with the same elements are sorted to the same list: statements about a Python
    set do not depend on its iteration order -/
theorem sortStr_congr (a b : List Str) (ha : a.Nodup) (hb : b.Nodup) (h : ∀ k, k ∈ a ↔ k ∈ b) :
    sortStr a = sortStr b :=
  sortStr_perm_eq a b ((List.perm_ext_iff_of_nodup ha hb).2 h)

theorem toSet_ext (l l' : List Str) (h : ∀ k, k ∈ l ↔ k ∈ l') : toSet l = toSet l' :=
  sortStr_congr _ _ (dedup_nodup l) (dedup_nodup l') (fun k => by rw [mem_dedup, mem_dedup, h k])

mutual
theorem mem_rawTzids : ∀ (t : Comp) (k : Str),
    k ∈ rawTzids t ↔ ∃ c ∈ preorder t, ∃ e ∈ c.props, ∃ v ∈ e.vals, k ∈ valTzids v
  | .mk n p subs, k => by
    simp only [rawTzids, preorder, List.mem_append, mem_rawTzidsL subs k, List.mem_cons, propsTzids, entryTzids,
      List.mem_flatMap, or_and_right, exists_or, exists_eq_left, Comp.props]
theorem mem_rawTzidsL : ∀ (cs : List Comp) (k : Str),
    k ∈ rawTzidsL cs ↔ ∃ c ∈ preorderL cs, ∃ e ∈ c.props, ∃ v ∈ e.vals, k ∈ valTzids v
  | [], _ => by simp [rawTzidsL, preorderL]
  | c :: cs, k => by
    simp only [rawTzidsL, preorderL, List.mem_append, mem_rawTzids c k, mem_rawTzidsL cs k, or_and_right, exists_or]
end

theorem mem_valTzids (v : Val) (k : Str) :
    k ∈ valTzids v ↔ v.params.get? TZID = some (.one k) ∨ ∃ l, v.params.get? TZID = some (.many l) ∧ k ∈ l := by
  unfold valTzids
  split
  · next s h => simp [h, eq_comm]
  · next l h => simp [h]
  · next h => simp [h]

theorem rawTzidsL_append : ∀ (a b : List Comp), rawTzidsL (a ++ b) = rawTzidsL a ++ rawTzidsL b
  | [], _ => by simp [rawTzidsL]
  | c :: a, b => by simp [rawTzidsL, rawTzidsL_append a b]

theorem rawTzidsL_gen : ∀ (ks : List Str), rawTzidsL (ks.map genTz) = []
  | [] => by simp [rawTzidsL]
  | k :: ks => by
    simp only [List.map_cons, rawTzidsL, rawTzidsL_gen ks, List.append_nil]
    simp [genTz, rawTzids, rawTzidsL, propsTzids, entryTzids, valTzids, Params.get?]

theorem walkAuxL_append (name? : Option Str) (sel : Comp → Bool) : ∀ (a b : List Comp),
    walkAuxL name? sel (a ++ b) = walkAuxL name? sel a ++ walkAuxL name? sel b
  | [], _ => by simp [walkAuxL]
  | c :: a, b => by simp [walkAuxL, walkAuxL_append name? sel a b]

theorem upper_VTIMEZONE : upper VTIMEZONE = VTIMEZONE := by decide +kernel

theorem tzName_gen (k : Str) : tzName? (genTz k) = some k := by
  simp [tzName?, genTz, Comp.props]

theorem walk_gen : ∀ (ks : List Str),
    walkAuxL (some VTIMEZONE) (fun _ => true) (ks.map genTz) = ks.map genTz
  | [] => by simp [walkAuxL]
  | k :: ks => by
    simp only [List.map_cons, walkAuxL, walk_gen ks]
    simp [genTz, walkAux, walkAuxL]

theorem filterMap_gen : ∀ (ks : List Str), (ks.map genTz).filterMap tzName? = ks
  | [] => rfl
  | k :: ks => by simp [tzName_gen, filterMap_gen ks]

theorem tzNames_mk (n : Str) (p : List Entry) (subs : List Comp) :
    tzNames (.mk n p subs) =
      (if n == VTIMEZONE then (tzName? (.mk n p [])).toList else []) ++
        (walkAuxL (some VTIMEZONE) (fun _ => true) subs).filterMap tzName? := by
  simp only [tzNames, timezones, walk, Option.map, upper_VTIMEZONE, walkAux, Bool.and_true,
    List.filterMap_append]
  congr 1
  split
  · -- `tzName?` reads only the properties; with `[]` the head term does not mention `subs`, so the
    -- equation rewrites `tzNames (.mk n p (subs ++ …))` into a part for the node and a part for the children
    have : tzName? (.mk n p subs) = tzName? (.mk n p []) := rfl
    rw [List.filterMap_cons, this]
    cases tzName? (.mk n p []) <;> simp
  · simp

theorem tzNames_append_gen (n : Str) (p : List Entry) (subs : List Comp) (ks : List Str) :
    tzNames (.mk n p (subs ++ ks.map genTz)) = tzNames (.mk n p subs) ++ ks := by
  simp only [tzNames_mk, walkAuxL_append, walk_gen, List.filterMap_append, filterMap_gen,
    List.append_assoc]

theorem usedTzids_append_gen (n : Str) (p : List Entry) (subs : List Comp) (ks : List Str) :
    usedTzids (.mk n p (subs ++ ks.map genTz)) = usedTzids (.mk n p subs) := by
  simp only [usedTzids, rawTzids, rawTzidsL_append, rawTzidsL_gen, List.append_nil]

/-- the ids `add_missing_timezones` appends -/
def addedIds (knows : Str → Bool) (t : Comp) : List Str := (missingTzids t).filter knows

theorem addMissing_eq (knows : Str → Bool) (t : Comp) :
    addMissing knows t = .mk t.name t.props (t.subs ++ (addedIds knows t).map genTz) := by
  cases t; rfl

theorem usedTzids_addMissing (knows : Str → Bool) (t : Comp) :
    usedTzids (addMissing knows t) = usedTzids t := by
  cases t with
  | mk n p subs => simp only [addMissing, usedTzids_append_gen]

theorem tzNames_addMissing (knows : Str → Bool) (t : Comp) :
    tzNames (addMissing knows t) = tzNames t ++ addedIds knows t := by
  cases t with
  | mk n p subs => simp only [addMissing, tzNames_append_gen, addedIds]

theorem mem_missingTzids (t : Comp) (k : Str) :
    k ∈ missingTzids t ↔ k ∈ usedTzids t ∧ k ∉ tzNames t := by
  simp [missingTzids]

theorem missingTzids_nodup (t : Comp) : (missingTzids t).Nodup :=
  (toSet_nodup _).sublist List.filter_sublist

theorem usedTzids_sorted (t : Comp) : (usedTzids t).Pairwise (fun a b => strLe a b = true) :=
  sortStr_sorted _

theorem missingTzids_sorted (t : Comp) : (missingTzids t).Pairwise (fun a b => strLe a b = true) :=
  (usedTzids_sorted t).sublist List.filter_sublist

theorem missingTzids_addMissing (knows : Str → Bool) (t : Comp) :
    missingTzids (addMissing knows t) = (missingTzids t).filter (fun k => !knows k) := by
  simp only [missingTzids, usedTzids_addMissing, tzNames_addMissing, List.filter_filter]
  apply List.filter_congr
  intro k hk
  have ha : (addedIds knows t).contains k = (!(tzNames t).contains k && knows k) := by
    rw [Bool.eq_iff_iff]
    simp [addedIds, mem_missingTzids, hk]
  rw [List.contains_append, ha]
  cases (tzNames t).contains k <;> cases knows k <;> rfl

end ICal
