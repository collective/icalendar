/-
  Equality of the regenerated `CaselessDict.update` / `__init__` / `copy` (ICal/Gen/BodiesCDictMeta.lean, tools/py2lean.py:
  `*args` / `**kwargs`, `list(args) + [kwargs]`, the loop over the mappings with `hasattr(mapping, 'items')`, the
  inner loop `self[key] = value`; `super().__init__(..)` followed by the re-keying loop over `self.items()`;
  `type(self)(super().copy())`) with the hand model `cdUpdate` / `cdInit` / `cdCopy` of ICal/Model/CDict.lean.
-/
import ICal.Model.CDictInitPieces
import ICal.Lemmas.CDict
namespace ICal.Bodies
open ICal ICal.PyRT ICal.CDict ICal.Gen.BodiesCDictMeta

variable {V : Type}

theorem update_loop2_eq (up : Str → Str) : ∀ (l : List (Str × V)) (s : Store V),
    cd_update_loop2 (cdSetitem up) s l = .ok (cdUpdate up s l)
  | [], s => by simp [cd_update_loop2, cdUpdate, pure, Except.pure]
  | p :: r, s => by
    simp only [cd_update_loop2, update_loop2_eq up r, cdUpdate, List.foldl_cons]

theorem cdUpdate_append (up : Str → Str) (s : Store V) (a b : List (Str × V)) :
    cdUpdate up s (a ++ b) = cdUpdate up (cdUpdate up s a) b := by
  simp [cdUpdate, List.foldl_append]

theorem update_loop1_eq (up : Str → Str) : ∀ (ms : List (MapArg V)) (s : Store V),
    cd_update_loop1 MapArg.hasItems itemsIterP mapPairsP (cdSetitem up) s ms = .ok (cdUpdate up s (ms.flatMap (·.pairs)))
  | [], s => by simp [cd_update_loop1, cdUpdate, pure, Except.pure]
  | m :: r, s => by
    have hp : mapPairsP (if m.hasItems = true then itemsIterP m else m) = .ok m.pairs := by
      cases m.hasItems <;> simp [mapPairsP, itemsIterP]
    simp only [cd_update_loop1, hp, bind, Except.bind, update_loop2_eq, update_loop1_eq up r, List.flatMap_cons,
      cdUpdate_append]

/-- regenerated `update` = the model's `cdUpdate` over the pairs of the positional mappings, then of the keywords -/
theorem cdUpdateP_eq (tu : Str → Str) (s : Store V) (args : List (MapArg V)) (kw : MapArg V) :
    cdUpdateP tu s args kw = .ok (cdUpdate (foldKey tu) s (allPairs args kw)) := by
  simp only [cdUpdateP, cd_update, update_loop1_eq, bind, Except.bind, pure, Except.pure, allPairs]

/-- one iteration of the re-keying loop of the hand model -/
def rekeyStep (up : Str → Str) (m : Store V) (p : Str × V) : Store V :=
  if p.1 ≠ up p.1 then cdSetitem up (odErase m p.1) (up p.1) p.2 else m

/-- the regenerated loop body IS the model's step, as long as the deletion finds its key -/
theorem init_loop_eq (tu : Str → Str) : ∀ (l : List (Str × V)) (m : Store V),
    cd_init_loop1 tu (fun s k => .ok (odErase s k)) (cdSetitem (foldKey tu)) m l = .ok (l.foldl (rekeyStep (foldKey tu)) m)
  | [], m => by simp [cd_init_loop1, pure, Except.pure]
  | p :: r, m => by
    simp only [cd_init_loop1, List.foldl_cons, rekeyStep]
    by_cases h : p.1 = upper (tu p.1)
    · have hb : (p.1 != upper (tu p.1)) = false := by simp [h.symm]
      have hn : ¬ (p.1 ≠ foldKey tu p.1) := by simp [foldKey, h.symm]
      simp only [hb, hn, if_false, Bool.false_eq_true, bind, Except.bind, pure, Except.pure]
      exact init_loop_eq tu r m
    · have hb : (p.1 != upper (tu p.1)) = true := by simpa using h
      have hn : p.1 ≠ foldKey tu p.1 := by simpa [foldKey] using h
      simp only [hb, hn, if_true, bind, Except.bind, pure, Except.pure, ne_eq, not_false_eq_true]
      exact init_loop_eq tu r _

/-- on entries whose keys are folded the loop does nothing, whatever the deletion would do -/
theorem init_loop_noop (tu : Str → Str) (del : Store V → Str → Py (Store V)) : ∀ (l : List (Str × V)) (m : Store V),
    (∀ k ∈ odKeys l, foldKey tu k = k) → cd_init_loop1 tu del (cdSetitem (foldKey tu)) m l = .ok m
  | [], m, _ => by simp [cd_init_loop1, pure, Except.pure]
  | p :: r, m, h => by
    have hp : upper (tu p.1) = p.1 := h p.1 (by simp [odKeys])
    have hb : (p.1 != upper (tu p.1)) = false := by simp [hp]
    simp only [cd_init_loop1, hb, if_false, Bool.false_eq_true, bind, Except.bind, pure, Except.pure]
    exact init_loop_noop tu del r m (fun k hk => h k (by simp [odKeys] at hk ⊢; exact Or.inr hk))

/-- regenerated `__init__` with a deletion that finds its key = the model's `cdInit` (no hypothesis on `up`) -/
theorem cd_init_model (tu : Str → Str) (args : List (MapArg V)) (kw : MapArg V) :
    cd_init (self_ := ([] : Store V)) (args := args) (kwargs := kw) (super_init := superInitP tu) (items := fun s => s)
      (to_unicode := tu) (super_delitem := fun s k => .ok (odErase s k)) (set_item := cdSetitem (foldKey tu)) =
      .ok (cdInit (foldKey tu) (allPairs args kw)) := by
  simp only [cd_init, superInitP, bind, Except.bind, pure, Except.pure, init_loop_eq, cdInit, cdRekey]
  rfl

/-- regenerated `__init__` with the dict's own deletion (KeyError without the key): never raises -/
theorem cdInitP_eq (tu : Str → Str) (up_idem : ∀ k, foldKey tu (foldKey tu k) = foldKey tu k) (args : List (MapArg V)) (kw : MapArg V) :
    cdInitP tu args kw = .ok (cdInit (foldKey tu) (allPairs args kw)) := by
  have hinv := (inv_cdUpdate (up := foldKey tu) up_idem (allPairs args kw) (inv_nil (V := V))).2
  simp only [cdInitP, cd_init, superInitP, bind, Except.bind, pure, Except.pure]
  rw [init_loop_noop tu superDelitemP _ _ hinv]
  rw [cdInit_update up_idem]

theorem cdCopyP_eq (tu : Str → Str) (up_idem : ∀ k, foldKey tu (foldKey tu k) = foldKey tu k) (s : Store V) :
    cdCopyP tu s = .ok (cdCopy (foldKey tu) s) := by
  simp only [cdCopyP, cd_copy, cdInitP_eq tu up_idem, allPairs, cdCopy]
  simp

end ICal.Bodies
