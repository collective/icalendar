/-
  Equality of the regenerated `vDDDLists.from_ical` / `vDDDLists.to_ical` (ICal/Gen/BodiesDec.lean, ICal/Gen/Bodies.lean,
  tools/py2lean.py: `ical.split(',')`, the loop `out.append(vDDDTypes.from_ical(ical_dt, timezone=timezone))` through
  the regenerated dispatcher; the generator of `from_unicode(dt.to_ical())` joined by `b','`) with the hand model of
  ICal/Model/Zoned.lean: `listFromZ` is `mapE <element decoder> (splitOnChar ',' t)` and `listText` is the comma join of the
  element texts.  The element decoder without a zone is `dddFrom` of ICal/Model/Codec.lean (ICal/Lemmas/BodiesDDD.lean).
-/
import ICal.Lemmas.BodiesDDD
import ICal.Lemmas.BodiesRT
import ICal.Model.Zoned
namespace ICal.Bodies
open ICal ICal.PyRT ICal.Gen.BodiesDec ICal.Gen.Bodies ICal.Zoned

theorem ddl_from_loop_eq (lu : PyDateTime → PyDateTime) : ∀ (parts : List Str) (acc : List PyDDD),
    vDDDLists_from_ical_loop1 durGroups (fun s _ => periodFromP lu s) lu acc parts =
      liftRes (fun ds => acc ++ ds.map (dddPy lu)) (mapE dddFrom parts)
  | [], acc => by simp [vDDDLists_from_ical_loop1, mapE, liftRes, pure, Except.pure]
  | x :: xs, acc => by
    have hx := ddd_from_eq lu x
    unfold dddFromP at hx
    simp only [vDDDLists_from_ical_loop1, hx, mapE]
    cases hd : dddFrom x with
    | error e => cases e <;> simp [liftRes, bind, Except.bind]
    | ok v =>
      simp only [liftRes, bind, Except.bind]
      rw [ddl_from_loop_eq lu xs]
      cases hm : mapE dddFrom xs with
      | error e => cases e <;> simp [liftRes]
      | ok vs => simp [liftRes]

theorem ddl_from_eq (lu : PyDateTime → PyDateTime) (t : Str) :
    dddListsFromP lu t = liftRes (List.map (dddPy lu)) (mapE dddFrom (splitOnChar ',' t)) := by
  unfold dddListsFromP vDDDLists_from_ical
  simp only [ddl_from_loop_eq, bind, Except.bind, pure, Except.pure]
  cases mapE dddFrom (splitOnChar ',' t) with
  | error e => cases e <;> simp [liftRes]
  | ok vs => simp [liftRes]

/-- `to_ical`: when no element raises, the comma join of the element texts -/
theorem ddl_to_eq {DO : Type} (text : DO → Str) (dts : List DO) :
    dddListsToP (fun d => .ok (text d)) dts = .ok (joinWith [','] (dts.map text)) := by
  unfold dddListsToP vDDDLists_to_ical
  rw [mapM_ok _ text dts]
  · rfl
  · exact fun _ _ => rfl

end ICal.Bodies
