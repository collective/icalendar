/-
  Equality of the regenerated `Component.from_ical` (ICal/Gen/BodiesParse.lean, tools/py2lean.py: the loop over the
  content lines with its `continue` / `break`, the two `try` blocks with their handlers and `else`, the stack of open
  components as a Python list with `append` / `pop()` / `stack[-1]`, the alias `component = stack[-1] if stack else
  None`, the inner loop over the parsed values, the `multiple` / exactly-one ending) with the hand model of
  ICal/Model/Parse.lean: one iteration is `pstep` (`loop_cons`), the loop is `prun` (`loop_prun`), the function is
  `parseLinesP` on `linesFromIcal st` (`fromIcal_parseLinesP`).  The external pieces are parameters, instantiated in
  ICal/Model/ParsePieces.lean with what the hand model says of them.  The Python list has its top at the end, the
  model's stack at the head: the states correspond through `List.reverse`.  After `break` (an X-COMMENT outside any
  component) the translated loop returns at once; the model's `stopped` flag makes it skip the remaining lines.
-/
import ICal.Model.ParsePieces
import ICal.Lemmas.Parse
namespace ICal.Bodies
open ICal ICal.PyRT ICal.Gen.BodiesParse

@[simp] theorem modLast_single {α : Type} (c : α) (f : α → α) : modLast [c] f = .ok [f c] := by
  simp [modLast]
theorem ok_bind {α β : Type} (a : α) (f : α → Py β) : ((Except.ok a : Py α) >>= f) = f a := rfl
theorem error_bind {α β : Type} (e : Exc) (f : α → Py β) : ((Except.error e : Py α) >>= f) = .error e := rfl
theorem pure_ok {α : Type} (a : α) : (pure a : Py α) = .ok a := rfl
theorem throw_err {α : Type} (e : Exc) : (throw e : Py α) = .error e := rfl
theorem bind_ok {α : Type} (x : Py α) : (x >>= fun t => Except.ok t) = x := by cases x <;> rfl

/-! The model's stack `c :: r` is the Python list `(c :: r).reverse`: its last element is `c`. -/

theorem getLast?_reverse_cons {α : Type} (c : α) (r : List α) : (c :: r).reverse.getLast? = some c := by
  rw [List.getLast?_reverse, List.head?_cons]
theorem listPop_reverse {α : Type} (c : α) (r : List α) : listPop (c :: r).reverse = .ok (c, r.reverse) := by
  simp [listPop]
theorem modLast_reverse {α : Type} (c : α) (r : List α) (f : α → α) :
    modLast (c :: r).reverse f = .ok (f c :: r).reverse := by
  simp [modLast]

def optPy {α : Type} : Option α → Py α
  | some x => .ok x
  | none => .error .valueError

theorem partsP_none {line : Str} (h : ICal.parts line = none) : partsP line = .error .valueError := by
  rw [partsP, h]
theorem partsP_some {line : Str} {r : Str × Params × Str} (h : ICal.parts line = some r) : partsP line = .ok r := by
  rw [partsP, h]

theorem decodeTzP_eq (dec : Dec) (k v : Str) (p : Params) :
    decodeTzP dec k v p = optPy ((dec k v (Params.get? p ['T','Z','I','D'])).map fun t => ⟨k, t, []⟩) := by
  rw [decodeTzP, TZIDs]
  cases dec k v (Params.get? p ['T','Z','I','D']) <;> rfl

theorem decodeP_eq (dec : Dec) (k v : Str) : decodeP dec k v = optPy ((dec k v none).map fun t => ⟨k, t, []⟩) := by
  rw [decodeP]
  cases dec k v none <;> rfl

theorem mapM_optPy {α β γ : Type} (g : α → Option β) (mk : β → γ) (vs : List α) :
    vs.mapM (fun v => optPy ((g v).map mk)) = optPy ((vs.mapM g).map (List.map mk)) := by
  induction vs with
  | nil => rfl
  | cons v vs ih =>
    rw [List.mapM_cons, List.mapM_cons, ih]
    cases g v with
    | none => rfl
    | some t => cases List.mapM g vs <;> rfl

theorem optPy_single {β γ : Type} (o : Option β) (mk : β → γ) :
    (optPy (o.map mk) >>= fun t => Except.ok [t]) = optPy ((o.map fun x => [x]).map (List.map mk)) := by
  cases o <;> rfl

theorem fromIcal_loop2_eq (name : Str) (params : Params) (r : List PComp) : ∀ (vs : List Val) (c : PComp),
    Component_from_ical_loop2 setParamsP addP name params (c :: r).reverse vs =
      .ok (vs.foldl (fun c v => addP c name (setParamsP v params)) c :: r).reverse := by
  intro vs
  induction vs with
  | nil => intro c; rfl
  | cons v vs ih =>
    intro c
    simp only [Component_from_ical_loop2, modLast_reverse, ok_bind, List.foldl_cons]
    exact ih _

theorem foldl_addP (k name : Str) (params : Params) (n : Str) (s : List PComp) (e : List Str) : ∀ (texts : List Str) (p : List Entry),
    (texts.map (fun t => (⟨k, t, []⟩ : Val))).foldl (fun c v => addP c name (setParamsP v params)) (PComp.mk n p s e) =
      PComp.mk n ((texts.map (fun t => (⟨k, t, params⟩ : Val))).foldl (fun p v => addEntry p (upper name) v) p) s e := by
  intro texts
  induction texts with
  | nil => intro p; rfl
  | cons t ts ih => intro p; simp only [List.map_cons, List.foldl_cons, addP, setParamsP]; exact ih _

def liftStep (tzok : Comp → Bool) (dec : Dec) (rest : List Str) : Option PState → Py (List PComp × List PComp)
  | none => .error .valueError
  | some st' => if st'.stopped then .ok (st'.stack.reverse, st'.comps) else loopP tzok dec st'.stack.reverse st'.comps rest

theorem liftStep_run (tzok : Comp → Bool) (dec : Dec) (rest : List Str) (stack comps : List PComp) :
    liftStep tzok dec rest (some ⟨stack, comps, false⟩) = loopP tzok dec stack.reverse comps rest := rfl

/- One iteration.  The generated body is unfolded once; each line kind then selects its branch by rewriting with
   the test that decides it, the right side is the `pstep_*` equation of that kind, and what is left holds by
   computation (`rfl`) once the Booleans it branches on are variables. `rw` and not `simp only` unfolds the pieces
   that occur in `if` conditions: `generalize` needs the `Decidable` instances rewritten along with them. -/
theorem loop_cons (tzok : Comp → Bool) (dec : Dec) (st : PState) (hst : st.stopped = false) (line : Str) (rest : List Str) :
    loopP tzok dec st.stack.reverse st.comps (line :: rest) = liftStep tzok dec rest (pstep tzok dec st line) := by
  obtain ⟨stack, comps, stopped⟩ := st
  simp only at hst
  subst hst
  rw [loopP, Component_from_ical_loop1, ← loopP]
  dsimp only
  cases line with
  | nil => rfl
  | cons ch cs =>
    have hne : ch :: cs ≠ [] := List.cons_ne_nil ch cs
    rw [if_neg (show ¬ (!truthy (ch :: cs)) = true from Bool.false_ne_true)]
    cases hp : ICal.parts (ch :: cs) with
    | none =>
      rw [partsP_none hp, pstep_noparts tzok dec _ _ rfl hne hp]
      cases stack with
      | nil => rfl
      | cons c r =>
        obtain ⟨n, p, s, e⟩ := c
        simp only [error_bind, getLast?_reverse_cons, modLast_reverse, ignoreP]
        cases lenientName n <;> rfl
    | some r =>
      obtain ⟨name, params, vals⟩ := r
      rw [partsP_some hp]
      simp only [ok_bind, pure_ok]
      by_cases hb : upper name = nBEGIN
      · rw [if_pos (beq_nBEGIN.2 hb), pstep_begin _ rfl hne hp hb, liftStep_run,
          List.reverse_cons]
        split <;> rfl
      rw [if_neg (mt beq_nBEGIN.1 hb)]
      by_cases he : upper name = nEND
      · rw [if_pos (beq_nEND.2 he), pstep_end _ rfl hne hp he]
        cases stack with
        | nil => rfl
        | cons c r =>
          obtain ⟨n, p, s, e⟩ := c
          rw [listPop_reverse]
          simp only [ok_bind]
          rw [isTimezoneP, hasPropertyP, VTZ, tzFails, cacheP, PComp.toComp]
          generalize (upper vals == _ && _ && _) = isTz
          generalize tzok _ = ok
          simp only [List.isEmpty_reverse]
          cases r with
          | nil => cases isTz <;> cases ok <;> rfl
          | cons c2 r2 =>
            obtain ⟨pn, pp, ps, pe⟩ := c2
            rw [modLast_reverse]
            cases isTz <;> cases ok <;> rfl
      rw [if_neg (mt beq_nEND.1 he)]
      cases stack with
      | nil =>
        rw [pstep_orphan _ rfl hne hp hb he rfl, nXCOMMENT]
        generalize (upper name == _) = isComment
        cases isComment <;> rfl
      | cons c r =>
        obtain ⟨n, p, s, e⟩ := c
        rw [pstep_prop _ rfl hne hp hb he rfl, getLast?_reverse_cons,
          paramsHasP, isTextClassP, decodeStep]
        simp only [bind_ok, modLast_reverse, fromIcal_loop2_eq, Gen.fromIcalFreebusyOnUname, Gen.fromIcalDatetimeOnUname,
          Gen.datetimeNames, if_true]
        -- the `try` block `X` and the model's `decodeStep` (`o`) branch alike and agree branch by branch
        generalize hX : (if (upper name == _) = true then _ else _ : Py (List Val)) = X
        generalize ho : (if (upper name == _) = true then _ else _ : Option (List Str)) = o
        have key : X = optPy (o.map (List.map fun t => ⟨forProperty name, t, []⟩)) := by
          rw [← hX, ← ho]
          simp only [decodeTzP_eq, decodeP_eq, mapM_optPy, optPy_single]
          generalize params.get? _ = tz
          generalize (upper name == _) = isFreebusy
          generalize List.contains _ (upper name) = isDatetime
          cases tz <;> cases isFreebusy <;> cases isDatetime <;> rfl
        rw [key, ignoreP]
        cases o with
        | none =>
          rw [propResult]
          cases lenientName n <;> rfl
        | some texts =>
          exact congrArg (fun c => loopP tzok dec (c :: r).reverse comps rest)
            (foldl_addP (forProperty name) name params n s e texts p)

/-- the translated loop is `prun`: the Python list `stack` has its top at the end, the model's at the head -/
theorem loop_prun (tzok : Comp → Bool) (dec : Dec) (lines : List Str) : ∀ (st : PState), st.stopped = false →
    loopP tzok dec st.stack.reverse st.comps lines =
      match prun tzok dec st lines with
      | none => .error .valueError
      | some st' => .ok (st'.stack.reverse, st'.comps) := by
  induction lines with
  | nil => intro st _; simp [loopP, Component_from_ical_loop1, prun, pure_ok]
  | cons l ls ih =>
    intro st hst
    rw [loop_cons tzok dec st hst, prun]
    cases hp : pstep tzok dec st l with
    | none => rfl
    | some st' =>
      simp only [liftStep]
      cases hs : st'.stopped with
      | true => simp [prun_stopped tzok dec ls st' hs]
      | false => simp [ih st' hs]

theorem fromIcal_parseLinesP (tzok : Comp → Bool) (dec : Dec) (st : Str) (multiple : Bool) :
    fromIcalP tzok dec st multiple =
      match parseLinesP tzok dec multiple (linesFromIcal st) with
      | none => .error .valueError
      | some cs => if multiple then .ok (.many cs) else match cs with
        | c :: _ => .ok (.one c)
        | [] => .error .indexError := by
  unfold fromIcalP Component_from_ical parseLinesP
  have h := loop_prun tzok dec (linesFromIcal st) PState.init rfl
  simp only [PState.init, List.reverse_nil] at h
  unfold loopP at h
  simp only [PState.init]
  rw [h]
  cases hp : prun tzok dec ⟨[], [], false⟩ (linesFromIcal st) with
  | none => rfl
  | some st' =>
    simp only [ok_bind]
    cases multiple with
    | true => simp [pure_ok]
    | false =>
      obtain ⟨stack, comps, stopped⟩ := st'
      cases comps with
      | nil => simp [throw_err]
      | cons c cs =>
        cases cs with
        | nil => simp [listHead, ok_bind, pure_ok]
        | cons c2 cs2 =>
          simp [throw_err]
          intro h1; omega

theorem fromIcal_raises_only_valueError (tzok : Comp → Bool) (dec : Dec) (st : Str) (multiple : Bool) (e : Exc)
    (h : fromIcalP tzok dec st multiple = .error e) : e = .valueError := by
  rw [fromIcal_parseLinesP] at h
  cases hp : parseLinesP tzok dec multiple (linesFromIcal st) with
  | none => rw [hp] at h; injection h with h; exact h.symm
  | some cs =>
    rw [hp] at h
    cases multiple with
    | true => simp at h
    | false =>
      cases cs with
      | nil =>
        obtain ⟨c, hc⟩ := parseLinesP_single hp
        cases hc
      | cons c cs => simp at h

theorem fromIcalTrees_parseText (tzok : Comp → Bool) (dec : Dec) (multiple : Bool) (st : Str) :
    fromIcalTrees tzok dec multiple st = parseText tzok dec multiple st := by
  unfold fromIcalTrees parseText parseLines
  rw [fromIcal_parseLinesP]
  cases hp : parseLinesP tzok dec multiple (linesFromIcal st) with
  | none => rfl
  | some cs =>
    cases multiple with
    | true => rfl
    | false =>
      obtain ⟨c, rfl⟩ := parseLinesP_single hp
      rfl

end ICal.Bodies
