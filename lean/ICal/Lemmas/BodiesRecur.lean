/-
  Equality of the regenerated `vRecur.parse_type`, `vRecur.from_ical` and `vRecur.to_ical` (ICal/Gen/BodiesRecur.lean,
  tools/py2lean.py) with the hand model `parseType`, `recurFrom`, `recurTo` of ICal/Model/Recur.lean:
  the class of a part is looked up by the key as written (`cls.types` is caseless, default vText); a pair that does not
  split into exactly two parts on `=` is skipped (`continue` in the handler of the inner `try`); `recur[key] = ..`;
  ValueError passes, every other exception becomes ValueError; `cls(recur)`.  In `to_ical` a value that is no sequence is
  wrapped before it is encoded (`PyOneMany`), the parts of a key are joined with `,`, the pairs with `;` in the order of
  `sorted_items()`.  The external pieces are those of ICal/Model/RecurPieces.lean.
-/
import ICal.Model.RecurPieces
namespace ICal.Bodies
open ICal ICal.PyRT ICal.Gen.BodiesRecur

theorem mapM_liftCR {α β : Type} (f : α → CRes β) : ∀ (xs : List α),
    List.mapM (fun v => (liftCR (f v)) >>= fun (t : β) => (pure t : Py β)) xs = liftCR (mapRes f xs) := by
  intro xs
  induction xs with
  | nil => rfl
  | cons x xs ih =>
    rw [List.mapM_cons, ih]
    simp only [mapRes]
    cases hx : f x with
    | error e => cases e <;> rfl
    | ok y =>
      cases hm : mapRes f xs with
      | error e => cases e <;> rfl
      | ok ys => rfl

theorem recur_parse_type_eq (k v : Str) : recurParseTypeP k v = liftCR (parseType k v) := by
  unfold recurParseTypeP vRecur_parse_type parseType
  simp only []
  rw [mapM_liftCR]

/-- the loop of `from_ical` with the exception of the part decoder as raised (the model's `recurFromGo` turns it into
    ValueError at once; in the source the outer `try` does) -/
def recurFromGoE : List Str → Rule → CRes Rule
  | [], m => .ok m
  | p :: ps, m =>
    match splitOnChar '=' p with
    | [k, v] =>
      match parseType k v with
      | .ok vs => recurFromGoE ps (CDict.cdSetitem upper m k vs)
      | .error e => .error e
    | _ => recurFromGoE ps m

theorem recurFromGo_of_E (ps : List Str) : ∀ (m : Rule),
    recurFromGo ps m = (match recurFromGoE ps m with | .ok r => .ok r | .error _ => .error .valueError) := by
  induction ps with
  | nil => intro m; rfl
  | cons p ps ih =>
    intro m
    simp only [recurFromGo, recurFromGoE]
    cases hs : splitOnChar '=' p with
    | nil => exact ih m
    | cons a l1 =>
      cases l1 with
      | nil => exact ih m
      | cons b l2 =>
        cases l2 with
        | cons c l3 => exact ih m
        | nil =>
          simp only []
          cases parseType a b with
          | error e => rfl
          | ok vs => exact ih _

theorem from_ical_loop (ps : List Str) : ∀ (m : Rule),
    vRecur_from_ical_loop1 (type_of := recurTypeOf) (part_from := fun ty t => liftCR (partFrom ty t))
        (set_item := fun m k vs => CDict.cdSetitem upper m k vs) m ps = liftCR (recurFromGoE ps m) := by
  induction ps with
  | nil => intro m; rfl
  | cons p ps ih =>
    intro m
    rw [vRecur_from_ical_loop1]
    simp only [recurFromGoE]
    have hp := recur_parse_type_eq
    unfold recurParseTypeP at hp
    cases hs : splitOnChar '=' p with
    | nil => simpa [listUnpack2, bind, Except.bind, caught, valueErrors] using ih m
    | cons a l1 =>
      cases l1 with
      | nil => simpa [listUnpack2, bind, Except.bind, caught, valueErrors] using ih m
      | cons b l2 =>
        cases l2 with
        | cons c l3 => simpa [listUnpack2, bind, Except.bind, caught, valueErrors] using ih m
        | nil =>
          simp only [listUnpack2, bind, Except.bind, pure, Except.pure]
          rw [hp]
          cases hq : parseType a b with
          | error e => cases e <;> rfl
          | ok vs => simpa [liftCR] using ih _

/-- `vRecur.from_ical(text)` is the model's `recurFrom`: a rule, or ValueError (ValueError passes the outer `try`, every
    other exception becomes one) -/
theorem recur_from_ical_eq (t : Str) : recurFromP t = liftCR (recurFrom t) := by
  unfold recurFromP vRecur_from_ical recurFrom
  simp only []
  rw [from_ical_loop, recurFromGo_of_E]
  cases recurFromGoE (splitOnChar ';' t) [] with
  | ok r => rfl
  | error e => cases e <;> rfl

theorem liftCR_ok {α : Type} (v : α) : liftCR (Except.ok v : CRes α) = Except.ok v := rfl

/-- one pair of `to_ical`, the value a sequence: the model's `pairTo` -/
theorem to_ical_step (k : Str) (vs : List PartVal) (acc : List Str) (rest : List (Str × PyOneMany PartVal)) :
    vRecur_to_ical_loop1 (type_of := recurTypeOf) (part_to := fun ty v => liftCR (partTo ty v)) (from_unicode := id) acc
        ((k, PyOneMany.many vs) :: rest) =
      (liftCR (pairTo k vs) >>= fun s =>
        vRecur_to_ical_loop1 (type_of := recurTypeOf) (part_to := fun ty v => liftCR (partTo ty v)) (from_unicode := id) (acc ++ [s]) rest) := by
  rw [vRecur_to_ical_loop1]
  simp only [id]
  rw [mapM_liftCR]
  unfold pairTo
  cases mapRes (partTo (recurTypeOf k)) vs with
  | error e => cases e <;> rfl
  | ok ts => simp [liftCR, bind, Except.bind, Except.map]

theorem to_ical_loop (items : List (Str × List PartVal)) : ∀ (acc : List Str),
    vRecur_to_ical_loop1 (type_of := recurTypeOf) (part_to := fun ty v => liftCR (partTo ty v)) (from_unicode := id) acc
        (items.map (fun kv => (kv.1, PyOneMany.many kv.2))) =
      (liftCR (mapRes (fun kv => pairTo kv.1 kv.2) items) >>= fun r => pure (acc ++ r)) := by
  induction items with
  | nil => intro acc; simp [vRecur_to_ical_loop1, mapRes, liftCR, bind, Except.bind, pure, Except.pure]
  | cons kv items ih =>
    intro acc
    rw [List.map_cons, to_ical_step]
    simp only [mapRes]
    generalize pairTo kv.1 kv.2 = a
    cases a with
    | error e => cases e <;> rfl
    | ok s1 =>
      simp only [liftCR_ok, bind, Except.bind]
      rw [ih]
      generalize mapRes (fun kv => pairTo kv.1 kv.2) items = b
      cases b with
      | error e => cases e <;> rfl
      | ok r => simp [liftCR, bind, Except.bind, pure, Except.pure]

theorem recur_to_ical_eq (r : Rule) : recurToP r = liftCR (recurTo r) := by
  unfold recurToP recurToItemsP vRecur_to_ical recurTo
  simp only []
  rw [to_ical_loop]
  cases mapRes (fun kv => pairTo kv.1 kv.2) (recurItems r) with
  | error e => cases e <;> rfl
  | ok ts => simp [liftCR, bind, Except.bind, pure, Except.pure, Except.map]

/-- a value that is no sequence is wrapped: `{'COUNT': 3}` is written as `{'COUNT': [3]}` is -/
theorem to_ical_wraps (k : Str) (v : PartVal) (rest : List (Str × PyOneMany PartVal)) :
    recurToItemsP ((k, .one v) :: rest) = recurToItemsP ((k, .many [v]) :: rest) := by
  unfold recurToItemsP vRecur_to_ical
  simp only [vRecur_to_ical_loop1]

end ICal.Bodies
