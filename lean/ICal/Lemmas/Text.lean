/-
  Lemmas for the TEXT codec (C07).  The generated replace chain and decoder class enter through the
  first section only: the chain is the literal six-step `escapeCharLit`, the decoder is `unescTok`.
  Then: `escapeCharLit` is the per-character map `escC` after normalisation, and `unescTok` inverts `escC`;
  in the encoded form every `;` and `,` stands after an odd run of backslashes; splitting on unescaped commas.
-/
import ICal.Model.Text
import ICal.Lemmas.PyStr
namespace ICal

/-- escape_char as in parser.py (chain order preserved) -/
def escapeCharLit (s : Str) : Str :=
  rep1 LF [BS,'n'] (rep2 CR LF [BS,'n'] (rep1 ',' [BS,','] (rep1 ';' [BS,';'] (rep1 BS [BS,BS] (rep2 BS 'N' [LF] s)))))

def escC (c : Char) : Str :=
  if c = BS then [BS,BS] else if c = ';' then [BS,';'] else if c = ',' then [BS,','] else if c = LF then [BS,'n'] else [c]

/-- single-pass unescape (the *fixed* decoder) -/
def unescTok : Str → Str
  | [] => []
  | [c] => [c]
  | c :: d :: cs =>
    if c = BS then
      if d = BS then BS :: unescTok cs
      else if d = ';' then ';' :: unescTok cs
      else if d = ',' then ',' :: unescTok cs
      else if d = 'n' ∨ d = 'N' then LF :: unescTok cs
      else c :: unescTok (d :: cs)
    else if c = CR ∧ d = LF then LF :: unescTok cs
    else c :: unescTok (d :: cs)

section bridge

theorem escapeChar_eq_lit (s : Str) : escapeChar s = escapeCharLit s := by
  simp [escapeChar, applyChain, Gen.escapeCharChain, replaceAll_one, replaceAll_two, escapeCharLit, BS, LF, CR]

theorem inClass_unesc (d : Char) :
    inClass Gen.unescapeClass d = true ↔ (d = BS ∨ d = ';' ∨ d = ',' ∨ d = 'n' ∨ d = 'N') := by
  -- a one-point range holds exactly the character with that code
  have key : ∀ x : Char, (x.toNat ≤ d.toNat ∧ d.toNat ≤ x.toNat) ↔ d = x := fun x =>
    ⟨fun h => Char.toNat_inj.mp (Nat.le_antisymm h.2 h.1), fun h => h ▸ ⟨Nat.le_refl _, Nat.le_refl _⟩⟩
  have k1 : (44 ≤ d.toNat ∧ d.toNat ≤ 44) ↔ d = ',' := key ','
  have k2 : (59 ≤ d.toNat ∧ d.toNat ≤ 59) ↔ d = ';' := key ';'
  have k3 : (78 ≤ d.toNat ∧ d.toNat ≤ 78) ↔ d = 'N' := key 'N'
  have k4 : (92 ≤ d.toNat ∧ d.toNat ≤ 92) ↔ d = BS := key BS
  have k5 : (110 ≤ d.toNat ∧ d.toNat ≤ 110) ↔ d = 'n' := key 'n'
  simp only [inClass, Gen.unescapeClass, List.any_cons, List.any_nil, Bool.or_false, Bool.or_eq_true,
    Bool.and_eq_true, decide_eq_true_eq, k1, k2, k3, k4, k5]
  constructor
  · rintro (h | h | h | h | h) <;> simp [h]
  · rintro (h | h | h | h | h) <;> simp [h]

theorem unescapeSingle_eq_tok (s : Str) : unescapeSingle s = unescTok s := by
  fun_induction unescapeSingle s with
  | case1 => simp [unescTok]
  | case2 c => simp [unescTok]
  | case3 c d cs h ih =>
    obtain ⟨rfl, h⟩ := h
    rw [inClass_unesc] at h
    rcases h with h | h | h | h | h <;> subst h <;>
      simp [unescTok, unescOne, Gen.unescapeToNewline, Gen.unescapeNewline, ih, BS, LF]
  | case4 c d cs h h2 ih =>
    obtain ⟨rfl, rfl⟩ := h2
    simp [unescTok, Gen.unescapeNewline, ih, BS, CR, LF]
  | case5 c d cs h h2 ih =>
    rw [inClass_unesc] at h
    by_cases hc : c = BS
    · subst hc
      have hd : ¬ (d = BS ∨ d = ';' ∨ d = ',' ∨ d = 'n' ∨ d = 'N') := fun hh => h ⟨rfl, hh⟩
      simp only [not_or] at hd
      simp [unescTok, hd, ih]
    · simp [unescTok, hc, h2, ih]

theorem unescapeChar_eq_tok (s : Str) : unescapeChar s = unescTok s := by
  simp [unescapeChar, Gen.unescapeSinglePass, unescapeSingle_eq_tok]

end bridge

section perChar

theorem escC_cases (c : Char) :
    (∃ x, escC c = [BS, x] ∧ (c = BS ∧ x = BS ∨ c = ';' ∧ x = ';' ∨ c = ',' ∧ x = ',' ∨ c = LF ∧ x = 'n')) ∨
    (escC c = [c] ∧ c ≠ BS ∧ c ≠ ';' ∧ c ≠ ',' ∧ c ≠ LF) := by
  unfold escC
  by_cases h1 : c = BS
  · exact .inl ⟨BS, if_pos h1, .inl ⟨h1, rfl⟩⟩
  by_cases h2 : c = ';'
  · exact .inl ⟨';', by rw [if_neg h1, if_pos h2], .inr (.inl ⟨h2, rfl⟩)⟩
  by_cases h3 : c = ','
  · exact .inl ⟨',', by rw [if_neg h1, if_neg h2, if_pos h3], .inr (.inr (.inl ⟨h3, rfl⟩))⟩
  by_cases h4 : c = LF
  · exact .inl ⟨'n', by rw [if_neg h1, if_neg h2, if_neg h3, if_pos h4], .inr (.inr (.inr ⟨h4, rfl⟩))⟩
  · exact .inr ⟨by rw [if_neg h1, if_neg h2, if_neg h3, if_neg h4], h1, h2, h3, h4⟩

theorem not_mem_escC (c : Char) : LF ∉ escC c := by
  rcases escC_cases c with ⟨x, e, hx⟩ | ⟨e, _, _, _, h⟩ <;> rw [e]
  · rcases hx with ⟨_, rfl⟩ | ⟨_, rfl⟩ | ⟨_, rfl⟩ | ⟨_, rfl⟩ <;> decide
  · exact fun hm => h (List.mem_singleton.mp hm).symm

theorem not_mem_flatMap_escC (u : Str) : LF ∉ u.flatMap escC := by
  intro h
  obtain ⟨c, _, hc⟩ := List.mem_flatMap.mp h
  exact not_mem_escC c hc

/-- the decoder reads one encoded character; only a CR in front of LF would be read with its
    successor, and no LF follows -/
theorem unescTok_escC (c : Char) (t : Str) (h : LF ∉ t) : unescTok (escC c ++ t) = c :: unescTok t := by
  rcases escC_cases c with ⟨x, e, hx⟩ | ⟨e, h1, _, _, _⟩ <;> rw [e]
  · rcases hx with ⟨rfl, rfl⟩ | ⟨rfl, rfl⟩ | ⟨rfl, rfl⟩ | ⟨rfl, rfl⟩ <;> simp [unescTok, BS, LF]
  · cases t with
    | nil => rfl
    | cons d ds =>
      have hd : d ≠ LF := fun e => h (e ▸ List.mem_cons_self)
      rw [List.singleton_append, unescTok, if_neg h1, if_neg (fun hh => hd hh.2)]

theorem unesc_esc (u : Str) : unescTok (u.flatMap escC) = u := by
  induction u with
  | nil => rfl
  | cons c cs ih => rw [List.flatMap_cons, unescTok_escC c _ (not_mem_flatMap_escC cs), ih]

end perChar

section chain

/-- what the three middle stages of the chain make of one character: `escC` but for the line feed -/
def escDelim (c : Char) : Str :=
  if c = BS then [BS,BS] else if c = ';' then [BS,';'] else if c = ',' then [BS,','] else [c]

theorem stages_flatMap (u : Str) :
    rep1 ',' [BS,','] (rep1 ';' [BS,';'] (rep1 BS [BS,BS] u)) = u.flatMap escDelim := by
  simp only [rep1_flatMap, List.flatMap_assoc]
  congr 1; funext c
  by_cases h1 : c = BS
  · subst h1; simp [escDelim, BS]
  · by_cases h2 : c = ';'
    · subst h2; simp [escDelim, BS]
    · by_cases h3 : c = ','
      · subst h3; simp [escDelim, BS]
      · simp [escDelim, h1, h2, h3]

theorem escDelim_of_ne (c : Char) (h : c ≠ LF) : escDelim c = escC c := by
  unfold escDelim escC; rw [if_neg h]

theorem head_escC (c : Char) (t : Str) : (escC c ++ t).head? ≠ some LF := by
  rcases escC_cases c with ⟨x, e, _⟩ | ⟨e, _, _, _, h⟩ <;> rw [e]
  · exact fun hh => absurd (Option.some.inj hh) (by decide)
  · exact fun hh => h (Option.some.inj hh)

theorem peel_ne (c : Char) (rest : Str) (h : c ≠ CR) :
    rep1 LF [BS,'n'] (rep2 CR LF [BS,'n'] (escDelim c ++ rest)) =
      escC c ++ rep1 LF [BS,'n'] (rep2 CR LF [BS,'n'] rest) := by
  by_cases h4 : c = LF
  · subst h4
    rw [show escDelim LF = [LF] by decide, List.singleton_append, rep2_cons_ne _ _ _ _ _ h, rep1, if_pos rfl]
    rfl
  · rw [escDelim_of_ne c h4]
    rcases escC_cases c with ⟨x, e, hx⟩ | ⟨e, _, _, _, _⟩ <;> rw [e]
    · have hx' : x ≠ CR ∧ x ≠ LF := by
        rcases hx with ⟨_, rfl⟩ | ⟨_, rfl⟩ | ⟨_, rfl⟩ | ⟨_, rfl⟩ <;> decide
      rw [List.cons_append, List.cons_append, List.nil_append, rep2_cons_ne _ _ _ _ _ (by decide : BS ≠ CR),
        rep2_cons_ne _ _ _ _ _ hx'.1, rep1, if_neg (by decide : BS ≠ LF), rep1, if_neg hx'.2]
      rfl
    · rw [List.singleton_append, rep2_cons_ne _ _ _ _ _ h, rep1, if_neg h4]
      rfl

theorem crlf_stage (u : Str) :
    rep1 LF [BS,'n'] (rep2 CR LF [BS,'n'] (u.flatMap escDelim)) = (rep2 CR LF [LF] u).flatMap escC := by
  fun_induction rep2 CR LF [LF] u with
  | case1 => rfl
  | case2 c =>
    by_cases h : c = CR
    · subst h; decide
    · simpa [rep2, rep1] using peel_ne c [] h
  | case3 c d cs hcd ih =>
    obtain ⟨rfl, rfl⟩ := hcd
    rw [List.flatMap_cons, List.flatMap_cons, show escDelim CR = [CR] by decide, show escDelim LF = [LF] by decide]
    show rep1 LF [BS,'n'] (rep2 CR LF [BS,'n'] (CR :: LF :: List.flatMap escDelim cs)) = _
    rw [rep2, if_pos ⟨rfl, rfl⟩, rep1_append, ih]
    rfl
  | case4 c d cs hcd ih =>
    rw [List.flatMap_cons (x := c), List.flatMap_cons (f := escC)]
    by_cases h : c = CR
    · subst h
      have hd : d ≠ LF := fun hd => hcd ⟨rfl, hd⟩
      rw [show escDelim CR = [CR] by decide, List.singleton_append,
        rep2_cons_a _ _ _ _ (by rw [List.flatMap_cons, escDelim_of_ne d hd]; exact head_escC d _), rep1,
        if_neg (by decide : CR ≠ LF), ih]
      rfl
    · rw [peel_ne c _ h, ih]

theorem escape_tokens (s : Str) : escapeCharLit s = (norm s).flatMap escC := by
  unfold escapeCharLit norm
  rw [stages_flatMap, crlf_stage]

theorem text_roundtrip (s : Str) : unescTok (escapeCharLit s) = norm s := by
  rw [escape_tokens, unesc_esc]

end chain

section wellEscaped

/-- the encoded form is a sequence of tokens `\\ \; \, \n` and plain characters other than
    backslash, semicolon, comma and LF -/
def wellEscaped : Str → Bool
  | [] => true
  | [c] => c != BS && c != ';' && c != ',' && c != LF
  | c :: d :: cs =>
    if c = BS then (d == BS || d == ';' || d == ',' || d == 'n') && wellEscaped cs
    else c != ';' && c != ',' && c != LF && wellEscaped (d :: cs)

theorem wellEscaped_escC (c : Char) (t : Str) : wellEscaped (escC c ++ t) = wellEscaped t := by
  rcases escC_cases c with ⟨x, e, hx⟩ | ⟨e, h1, h2, h3, h4⟩ <;> rw [e]
  · rcases hx with ⟨_, rfl⟩ | ⟨_, rfl⟩ | ⟨_, rfl⟩ | ⟨_, rfl⟩ <;> simp [wellEscaped]
  · cases t <;> simp [wellEscaped, h1, h2, h3, h4]

theorem wellEscaped_tokens (u : Str) : wellEscaped (u.flatMap escC) = true := by
  induction u with
  | nil => rfl
  | cons c cs ih => rw [List.flatMap_cons, wellEscaped_escC, ih]

def bsRun (pre : Str) : Nat := (pre.reverse.takeWhile (· = BS)).length

/-- scanner state after `pre`: "the next character is escaped" -/
def escPar (pre : Str) : Bool := pre.foldl (fun b x => if x = BS then !b else false) false

theorem bsRun_snoc (pre : Str) (x : Char) :
    bsRun (pre ++ [x]) = if x = BS then bsRun pre + 1 else 0 := by
  unfold bsRun; by_cases h : x = BS <;> simp [h]

theorem escPar_snoc (pre : Str) (x : Char) :
    escPar (pre ++ [x]) = if x = BS then !(escPar pre) else false := by
  simp [escPar, List.foldl_append]

theorem escPar_eq_odd (pre : Str) : escPar pre = decide (bsRun pre % 2 = 1) := by
  rw [← List.reverse_reverse pre]
  generalize pre.reverse = r
  induction r with
  | nil => simp [escPar, bsRun]
  | cons x r ih =>
    rw [List.reverse_cons]
    generalize r.reverse = pre at ih
    rw [escPar_snoc, bsRun_snoc, ih]
    by_cases h : x = BS
    · simp only [h, if_true]
      by_cases hp : bsRun pre % 2 = 1
      · have : ¬ ((bsRun pre + 1) % 2 = 1) := by omega
        simp [hp, this]
      · have : (bsRun pre + 1) % 2 = 1 := by omega
        simp [hp, this]
    · simp [h]

/-- in a string of the escaped-token language every `;` and `,` is reached in the state "escaped"
    (nothing is claimed of the `n` that stands for a line feed) -/
theorem wellEscaped_delim_par (t : Str) (h : wellEscaped t = true) :
    ∀ pre c post, t = pre ++ c :: post → (c = ';' ∨ c = ',') → escPar pre = true := by
  fun_induction wellEscaped t with
  | case1 => intro pre c post e; simp at e
  | case2 c0 =>
    intro pre c post e hc
    cases pre with
    | nil =>
      simp at e; obtain ⟨rfl, _⟩ := e
      rcases hc with rfl | rfl <;> simp at h
    | cons p ps => simp at e
  | case3 d cs ih =>
    simp only [Bool.and_eq_true] at h
    intro pre c post e hc
    cases pre with
    | nil =>
      simp at e; obtain ⟨rfl, _⟩ := e
      rcases hc with hc | hc <;> simp [BS] at hc
    | cons p ps =>
      cases ps with
      | nil => simp at e; obtain ⟨rfl, _, _⟩ := e; simp [escPar]
      | cons q qs =>
        simp at e
        obtain ⟨hp, hq, e⟩ := e
        have := ih h.2 qs c post e hc
        subst hp
        by_cases hq : q = BS <;> simpa [escPar, hq] using this
  | case4 c0 d cs hbs ih =>
    simp only [Bool.and_eq_true, bne_iff_ne, ne_eq] at h
    intro pre c post e hc
    cases pre with
    | nil =>
      simp at e; obtain ⟨rfl, _⟩ := e
      rcases hc with rfl | rfl
      · exact absurd rfl h.1.1.1
      · exact absurd rfl h.1.1.2
    | cons p ps =>
      simp at e
      obtain ⟨rfl, e⟩ := e
      have := ih h.2 ps c post e hc
      simpa [escPar, hbs] using this

end wellEscaped

section splitComma

def consHd (p : Str) : List Str → List Str
  | [] => [p]
  | hd :: tl => (p ++ hd) :: tl

theorem consHd_consHd (a b : Str) (l : List Str) : consHd a (consHd b l) = consHd (a ++ b) l := by
  cases l <;> simp [consHd]

theorem splitUnescComma_ne_nil (t : Str) : splitUnescComma t ≠ [] := by
  fun_induction splitUnescComma t <;> simp_all

theorem split_plain (c : Char) (t : Str) (h1 : c ≠ BS) (h2 : c ≠ ',') :
    splitUnescComma (c :: t) = consHd [c] (splitUnescComma t) := by
  cases t with
  | nil => simp [splitUnescComma, h2, consHd]
  | cons d ds =>
    simp only [splitUnescComma, h1, h2, if_false]
    cases h : splitUnescComma (d :: ds) with
    | nil => exact absurd h (splitUnescComma_ne_nil _)
    | cons hd tl => simp [consHd]

theorem split_esc (d : Char) (t : Str) :
    splitUnescComma (BS :: d :: t) = consHd [BS, d] (splitUnescComma t) := by
  simp only [splitUnescComma, if_true]
  cases h : splitUnescComma t with
  | nil => exact absurd h (splitUnescComma_ne_nil _)
  | cons hd tl => simp [consHd]

theorem split_comma (t : Str) : splitUnescComma (',' :: t) = [] :: splitUnescComma t := by
  cases t with
  | nil => simp [splitUnescComma]
  | cons d ds => simp [splitUnescComma, BS]

theorem split_escC (c : Char) (t : Str) :
    splitUnescComma (escC c ++ t) = consHd (escC c) (splitUnescComma t) := by
  rcases escC_cases c with ⟨x, e, _⟩ | ⟨e, h1, _, h3, _⟩ <;> rw [e]
  · exact split_esc x t
  · exact split_plain c t h1 h3

theorem split_tokens (u : Str) :
    splitUnescComma (u.flatMap escC) = [u.flatMap escC] ∧
    ∀ more, splitUnescComma (u.flatMap escC ++ ',' :: more) = u.flatMap escC :: splitUnescComma more := by
  induction u with
  | nil => exact ⟨rfl, split_comma⟩
  | cons c cs ih =>
    rw [List.flatMap_cons]
    refine ⟨by rw [split_escC, ih.1]; rfl, fun more => ?_⟩
    rw [List.append_assoc, split_escC, ih.2]; rfl

theorem split_join_tokens (us : List Str) (hne : us ≠ []) :
    splitUnescComma (joinWith [','] (us.map (fun u => u.flatMap escC))) = us.map (fun u => u.flatMap escC) := by
  induction us with
  | nil => exact absurd rfl hne
  | cons u rest ih =>
    cases rest with
    | nil => simpa [joinWith] using (split_tokens u).1
    | cons v vs =>
      have := ih (by simp)
      simp only [List.map_cons, joinWith] at this ⊢
      rw [List.append_assoc]
      simp only [List.singleton_append]
      rw [(split_tokens u).2, this]

end splitComma

end ICal
