/-
  Equality of the regenerated `Component.add` (ICal/Gen/BodiesAdd.lean, tools/py2lean.py) with the hand model `addProp`
  of ICal/Model/Encode.lean: a datetime under one of the names of the UTC tuple is converted first; a list argument is
  encoded element by element unless the name is one of the list names (then as a whole), anything else as one object;
  `if name in self:` - the old value and the new one are told apart by `isinstance(.., list)` and give old + new,
  old.append(new), [old] + new or [old, new]; `self[name] = value`.  The pieces are those of ICal/Model/AddPieces.lean.
-/
import ICal.Model.AddPieces
namespace ICal.Bodies
open ICal ICal.PyRT ICal.Enc ICal.Gen.BodiesAdd

theorem filter_absent (ps : Params) (k : Str) (h : ps.any (fun e => e.1 == k) = false) :
    ps.filter (fun e => e.1 != k) = ps := by
  rw [List.any_eq_false] at h
  rw [List.filter_eq_self]
  intro e he
  simpa using h e he

/-- the loop over `parameters.items()`: None deletes the key (when present), a value sets it -/
theorem encode_loop (upd : List (Str × Option PVal)) : ∀ (o : EncObj),
    (Component_encode_loop1 (params_has := paramsHasE) (params_del := paramsDelE) (params_set := paramsSetE) o upd).map EncObj.val =
      .ok { o.val with params := mergeParams o.val.params upd } := by
  induction upd with
  | nil => intro o; simp [Component_encode_loop1, mergeParams, pure, Except.pure, Except.map]
  | cons kv upd ih =>
    intro o
    obtain ⟨k, item⟩ := kv
    rw [Component_encode_loop1]
    cases item with
    | none =>
      simp only []
      by_cases hh : paramsHasE o k = true
      · simp only [hh, if_true]
        rw [ih]
        simp [paramsDelE, EncObj.val, mergeParams]
      · simp only [hh, if_false, Bool.false_eq_true]
        rw [ih]
        have hf : o.val.params.filter (fun e => e.1 != upper k) = o.val.params :=
          filter_absent _ _ (Bool.eq_false_iff.mpr hh)
        simp [mergeParams, hf]
    | some v =>
      simp only []
      rw [ih]
      simp [paramsSetE, EncObj.val, mergeParams]

/-- the parameter stage on an object; without items it is skipped, which is what the loop would make of it too -/
theorem encode_params (o : EncObj) (upd : List (Str × Option PVal)) :
    Except.map EncObj.val
      ((if (!upd.isEmpty) = true then Component_encode_loop1 paramsHasE paramsDelE paramsSetE o upd >>= fun t => pure t
        else pure o) >>= fun t => pure t) = .ok { o.val with params := mergeParams o.val.params upd } := by
  have hl := encode_loop upd o
  cases upd with
  | nil => rfl
  | cons kv r =>
    simp only [List.isEmpty_cons, Bool.not_false, if_true]
    cases hloop : Component_encode_loop1 paramsHasE paramsDelE paramsSetE o (kv :: r) with
    | error e => rw [hloop] at hl; cases hl
    | ok w => rw [hloop] at hl; exact hl

/-- the translated `_encode` is the model's `encodeOne` (a value of one of the value classes is not encoded again; the
    class of the name makes the object otherwise; then the parameters are merged: None deletes) -/
theorem encode_eq (name : Str) (v : PyVal) (upd : List (Str × Option PVal)) :
    (encodeOneP name v upd).map EncObj.val = liftEnc (encodeOne name v upd) := by
  have h1 : ((1 : Int) != 0) = true := by decide
  unfold encodeOneP Component_encode encodeOne
  simp only [Truthy.truthy, h1, Bool.not_true, Bool.false_eq_true, if_false]
  cases hk : keptTyped v with
  | some o =>
    have hp := encode_params (.raw v) upd
    simp only [EncObj.val, hk, Option.getD_some] at hp
    simp only [isTypedE, hk, Option.isSome_some, if_true]
    exact hp
  | none =>
    simp only [isTypedE, hk, Option.isSome_none, Bool.false_eq_true, if_false, constructE]
    cases construct1 (forProperty name) v with
    | error e => cases e <;> rfl
    | ok o => exact encode_params (.obj o) upd

theorem encodeU_one (upd : List (Str × Option PVal)) (name : Str) (v : PyVal) :
    encodeU upd name (PyOneMany.one v) () 1 = liftEnc (encodeOne name v upd) := encode_eq name v upd

theorem encodeU_many (upd : List (Str × Option PVal)) (name : Str) (xs : List PyVal) :
    encodeU upd name (PyOneMany.many xs) () 1 = liftEnc (encodeWhole name (.list xs) upd) := rfl

theorem mapM_encode (upd : List (Str × Option PVal)) (name : Str) : ∀ (xs : List PyVal),
    List.mapM (fun v => (encodeU upd name (PyOneMany.one v) () 1) >>= fun (t : Val) => (pure t : Py Val)) xs =
      liftEnc (Enc.mapRes (fun v => encodeOne name v upd) xs) := by
  intro xs
  induction xs with
  | nil => rfl
  | cons x xs ih =>
    rw [List.mapM_cons, ih]
    simp only [Enc.mapRes, encodeU_one]
    cases hx : encodeOne name x upd with
    | error e => cases e <;> rfl
    | ok y =>
      cases hm : Enc.mapRes (fun v => encodeOne name v upd) xs with
      | error e => cases e <;> rfl
      | ok ys => rfl

/-- the "set value" stage of the translated code on a stored value -/
def setStage (props : List Entry) (name : Str) (value : PyOneMany Val) : Py (List Entry) :=
  Component_add_tail props name value
where
  Component_add_tail (self_ : List Entry) (name : Str) (value : PyOneMany Val) : Py (List Entry) := do
    let m11' : PyOneMany Val ← (
      if ((hasKeyU self_ name)) then do
        let t12' : PyOneMany Val ← getItemU self_ name
        let oldval : PyOneMany Val := t12'
        match oldval with
        | .many n16' => do
          match value with
          | .many n18' => do
            let value : List Val := (n16' ++ n18')
            pure ((PyOneMany.many value))
          | .one n17' => do
            let oldval : List Val := (n16' ++ [n17'])
            let value : List Val := oldval
            pure ((PyOneMany.many value))
        | .one n13' => do
          match value with
          | .many n15' => do
            let value : List Val := ([n13'] ++ n15')
            pure ((PyOneMany.many value))
          | .one n14' => do
            let value : List Val := [n13', n14']
            pure ((PyOneMany.many value))
      else do
        pure (value))
    let value : PyOneMany Val := m11'
    let self : List Entry := (setItemU self_ name value)
    pure self

def storedU : Stored → PyOneMany Val
  | .one v => .one v
  | .many vs => .many vs

theorem setStage_eq (props : List Entry) (name : Str) (st : Stored) :
    setStage props name (storedU st) = .ok (accumulate props (upper name) st) := by
  unfold setStage setStage.Component_add_tail hasKeyU getItemU accumulate
  cases hf : props.find? (fun e => e.name == upper name) with
  | none => cases st <;> simp [bind, Except.bind, pure, Except.pure, setItemU, storedU]
  | some e =>
    -- `getItemU` tells a list from a single value by the entry's flag and the number of its values
    rcases e with ⟨en, _ | _, _ | ⟨x, _ | ⟨y, r⟩⟩⟩ <;> cases st <;>
      simp [bind, Except.bind, pure, Except.pure, setItemU, storedU]

theorem bind_eq_bind {α β : Type} {x y : Py α} {f g : α → Py β} (hx : x = y) (hf : ∀ a, f a = g a) :
    x >>= f = y >>= g := by
  rw [hx, funext hf]

/-- the first statement of the translated `add` is the model's `forceUtc` -/
theorem forceUtc_eq (name : Str) (a : PyArg) :
    (if isDatetimeU (argU a) && Gen.addUtcNames.contains (lower name) then localizeUtcU (argU a) else argU a) =
      argU (forceUtc name a) := by
  cases a with
  | list xs => rfl
  | one v =>
    cases v with
    | atom x =>
      cases x with
      | dt t => unfold forceUtc; cases Gen.addUtcNames.contains (lower name) <;> rfl
      | _ => rfl
    | _ => rfl

/-- the translated `add` is the encoding stage followed by the set stage -/
theorem add_split (props : List Entry) (name : Str) (a : PyArg) (upd : List (Str × Option PVal)) :
    componentAddP props name a upd =
      (liftEnc ((addValue name a upd).map storedU) >>= fun v => setStage props name v) := by
  unfold componentAddP Component_add
  refine bind_eq_bind ?_ fun v => ?_
  · have h1 : ((1 : Int) != 0) = true := by decide
    unfold addValue
    -- the translator writes the two name tuples out
    simp only [← Gen.addUtcNames.eq_1, ← Gen.addListNames.eq_1, Truthy.truthy, h1, if_true]
    rw [forceUtc_eq]
    cases forceUtc name a with
    | list xs =>
      simp only [argU]
      by_cases hl : Gen.addListNames.contains (lower name) = true
      · simp only [hl, Bool.not_true, Bool.false_eq_true, if_false, if_true, encodeU_many]
        cases encodeWhole name (.list xs) upd with
        | error e => cases e <;> rfl
        | ok v => rfl
      · simp only [hl, Bool.not_false, if_true, if_false, Bool.false_eq_true]
        rw [mapM_encode]
        cases Enc.mapRes (fun v => encodeOne name v upd) xs with
        | error e => cases e <;> rfl
        | ok vs => rfl
    | one v =>
      simp only [argU, encodeU_one]
      cases encodeOne name v upd with
      | error e => cases e <;> rfl
      | ok w => rfl
  · -- the same text as `setStage`, but its nested `match` is another auxiliary definition: by cases.
    -- `setStage` is copied by hand from the tail of the generated `Component_add`: when the generator changes that
    -- tail the copy has to be made again (the `rfl`s below fail until it is)
    unfold setStage setStage.Component_add_tail
    cases hasKeyU props name
    · rfl
    · simp only [if_true, bind, Except.bind]
      cases getItemU props name with
      | error e => rfl
      | ok o => cases o <;> cases v <;> rfl

theorem add_eq (props : List Entry) (name : Str) (a : PyArg) (upd : List (Str × Option PVal)) :
    componentAddP props name a upd = liftEnc (addProp props name a upd) := by
  rw [add_split]
  unfold addProp
  cases addValue name a upd with
  | error e => cases e <;> rfl
  | ok st => simp only [Except.map, liftEnc, bind, Except.bind, setStage_eq]

end ICal.Bodies
