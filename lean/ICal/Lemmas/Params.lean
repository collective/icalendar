/-
  Lemmas for property parameters (C08): dquote / q_join / q_split / Parameters.to_ical / from_ical, both orders of
  the items, letter case of names.  The generated character classes and constants are decided over in the first
  section only (the bridging lemmas), so a change of the source constants breaks exactly those.
-/
import ICal.Model.Params
import ICal.Lemmas.PyStr
namespace ICal

section bridge

theorem gen_dquoteFrom : Gen.dquoteFrom = DQ := by decide
theorem gen_dquoteTo : Gen.dquoteTo = ['\''] := by decide
theorem gen_dquoteTo_noDQ : DQ ∉ Gen.dquoteTo := by decide

theorem quotable_comma : inClass Gen.quotable ',' = true := by decide
theorem quotable_semi : inClass Gen.quotable ';' = true := by decide
theorem quotable_colon : inClass Gen.quotable ':' = true := by decide
theorem quotable_DQ : inClass Gen.quotable DQ = false := by decide
theorem qunsafe_DQ : inClass Gen.qunsafeChar DQ = true := by decide
theorem qunsafe_LF : inClass Gen.qunsafeChar LF = true := by decide
theorem quotable_BS : inClass Gen.quotable BS = true := by decide

theorem inClass_of_ranges_sub (A B : List (Nat × Nat))
    (h : A.all (fun r => B.any (fun s => s.1 ≤ r.1 && r.2 ≤ s.2)) = true) (c : Char)
    (hc : inClass A c = true) : inClass B c = true := by
  unfold inClass at *
  rw [List.any_eq_true] at hc ⊢
  obtain ⟨r, hr, hrc⟩ := hc
  obtain ⟨s, hs, hsr⟩ := List.any_eq_true.mp (List.all_eq_true.mp h r hr)
  simp only [Bool.and_eq_true, decide_eq_true_eq] at hrc hsr ⊢
  exact ⟨s, hs, by omega, by omega⟩

/-- UNSAFE_CHAR is QUNSAFE_CHAR plus characters that `dquote` puts inside quotes -/
theorem unsafe_sub (c : Char) (h : inClass Gen.unsafeChar c = true) :
    inClass Gen.qunsafeChar c = true ∨ inClass Gen.quotable c = true := by
  have := inClass_of_ranges_sub Gen.unsafeChar (Gen.qunsafeChar ++ Gen.quotable) (by decide) c h
  rw [inClass, List.any_append, Bool.or_eq_true] at this
  exact this

theorem validToken_tok (k : Str) (hk : validToken k = true) :
    ∀ c ∈ k, (isAsciiWord c || Gen.nameExtra.contains c) = true := by
  unfold validToken at hk
  simp only [Bool.and_eq_true, List.all_eq_true] at hk
  exact hk.2

theorem tokChar_ne {c d : Char} (hc : (isAsciiWord c || Gen.nameExtra.contains c) = true)
    (hd : (isAsciiWord d || Gen.nameExtra.contains d) = false) : c ≠ d := by
  rintro rfl
  rw [hd] at hc
  cases hc

theorem validToken_not_mem (k : Str) (hk : validToken k = true) (c : Char)
    (hc : (isAsciiWord c || Gen.nameExtra.contains c) = false) : c ∉ k :=
  fun h => tokChar_ne (validToken_tok k hk c h) hc rfl

theorem validToken_noDQ (k : Str) (hk : validToken k = true) : DQ ∉ k := validToken_not_mem k hk DQ (by decide)
theorem validToken_noSep (k : Str) (hk : validToken k = true) : ';' ∉ k := validToken_not_mem k hk ';' (by decide)
theorem validToken_noEq (k : Str) (hk : validToken k = true) : '=' ∉ k := validToken_not_mem k hk '=' (by decide)
theorem token_noPercent (n : Str) (hn : validToken n = true) : '%' ∉ n := validToken_not_mem n hn '%' (by decide)
theorem token_noBS (n : Str) (hn : validToken n = true) : BS ∉ n := validToken_not_mem n hn BS (by decide)
theorem token_noLF (n : Str) (hn : validToken n = true) : LF ∉ n := validToken_not_mem n hn LF (by decide)
theorem token_noColon (n : Str) (hn : validToken n = true) : ':' ∉ n := validToken_not_mem n hn ':' (by decide)

theorem validToken_chars (k : Str) (hk : validToken k = true) :
    k ≠ [] ∧ ∀ c ∈ k, c ≠ DQ ∧ c ≠ '=' ∧ c ≠ ';' ∧ c ≠ ',' := by
  refine ⟨?_, fun c hc => ?_⟩
  · intro e; rw [e] at hk; cases hk
  · have h := validToken_tok k hk c hc
    exact ⟨tokChar_ne h (by decide), tokChar_ne h (by decide), tokChar_ne h (by decide), tokChar_ne h (by decide)⟩

end bridge

section dquote

theorem dquote_def (v : Str) :
    dquote v = if (rep1 DQ ['\''] v).any (inClass Gen.quotable) then DQ :: rep1 DQ ['\''] v ++ [DQ]
               else rep1 DQ ['\''] v := by
  simp [dquote, gen_dquoteFrom, gen_dquoteTo]

theorem dquote_of_noDQ (v : Str) (hv : DQ ∉ v) :
    dquote v = if v.any (inClass Gen.quotable) then DQ :: v ++ [DQ] else v := by
  rw [dquote_def, rep1_of_not_mem DQ _ v hv]

theorem dquote_quoted (v : Str) (c : Char) (hc : c ∈ v) (hne : c ≠ DQ) (hq : inClass Gen.quotable c = true) :
    dquote v = DQ :: rep1 DQ ['\''] v ++ [DQ] := by
  rw [dquote_def, if_pos]
  exact List.any_eq_true.mpr ⟨c, mem_rep1_of_ne DQ _ c hne v hc, hq⟩

theorem dquote_eq_nil (v : Str) (h : dquote v = []) : v = [] := by
  rw [dquote_def] at h
  split at h
  · simp at h
  · cases v with
    | nil => rfl
    | cons c cs =>
      simp only [rep1] at h
      split at h <;> simp at h

theorem mem_dquote (c : Char) (x : Str) (hx : DQ ∉ x) (h : c ∈ dquote x) : c = DQ ∨ c ∈ x := by
  rw [dquote_of_noDQ x hx] at h
  split at h
  · simp only [List.cons_append, List.mem_cons, List.mem_append, List.not_mem_nil, or_false] at h
    rcases h with h | h | h
    · exact Or.inl h
    · exact Or.inr h
    · exact Or.inl h
  · exact Or.inr h

end dquote

section qsplit

def nextQ (q : Bool) (c : Char) : Bool := if c = DQ then !q else q

/-- scan a segment from quote state `q`: `none` if `q_split` would split inside it,
    otherwise the quote state at its end -/
def scanQ (sep : Char) : Bool → Str → Option Bool
  | q, [] => some q
  | q, c :: cs =>
    if (!(nextQ q c) && c == sep) = true then none else scanQ sep (nextQ q c) cs

/-- scanned from "not in quotes", the segment never shows `sep` outside quotes and ends outside quotes -/
def Balanced (sep : Char) (s : Str) : Prop := scanQ sep false s = some false

instance (sep : Char) (s : Str) : Decidable (Balanced sep s) := by unfold Balanced; infer_instance

theorem not_nextQ_and (q : Bool) (c sep : Char) (hs : sep ≠ DQ) :
    (!(nextQ q c) && c == sep) = (!q && c == sep) := by
  by_cases hc : c = sep
  · subst hc; simp [nextQ, hs]
  · rw [beq_eq_false_iff_ne.mpr hc, Bool.and_false, Bool.and_false]

theorem scanQ_append (sep : Char) : ∀ (a b : Str) (q : Bool),
    scanQ sep q (a ++ b) = (scanQ sep q a).bind (fun q' => scanQ sep q' b) := by
  intro a
  induction a with
  | nil => intro b q; simp [scanQ]
  | cons c cs ih =>
    intro b q
    simp only [List.cons_append, scanQ]
    by_cases hns : (!(nextQ q c) && c == sep) = true
    · simp [hns]
    · simp only [hns]; exact ih b _

theorem Balanced.append {sep : Char} {a b : Str} (ha : Balanced sep a) (hb : Balanced sep b) :
    Balanced sep (a ++ b) := by
  unfold Balanced at *
  rw [scanQ_append, ha]; exact hb

theorem scanQ_noDQ (sep : Char) : ∀ (s : Str) (q : Bool), DQ ∉ s → (q = false → sep ∉ s) →
    scanQ sep q s = some q := by
  intro s
  induction s with
  | nil => intro q _ _; rfl
  | cons c cs ih =>
    intro q h1 h2
    have c1 : c ≠ DQ := (List.ne_of_not_mem_cons h1).symm
    have c2 : q = false → c ≠ sep := fun hq => (List.ne_of_not_mem_cons (h2 hq)).symm
    have := ih q (List.not_mem_of_not_mem_cons h1) (fun hq => List.not_mem_of_not_mem_cons (h2 hq))
    cases q <;> simp [scanQ, nextQ, c1, c2, this]

theorem balanced_plain (sep : Char) (s : Str) (h1 : DQ ∉ s) (h2 : sep ∉ s) : Balanced sep s :=
  scanQ_noDQ sep s false h1 (fun _ => h2)

theorem balanced_quoted (sep : Char) (hs : sep ≠ DQ) (s : Str) (h1 : DQ ∉ s) :
    Balanced sep (DQ :: s ++ [DQ]) := by
  unfold Balanced
  have : scanQ sep false (DQ :: s ++ [DQ]) = scanQ sep true (s ++ [DQ]) := by
    simp [scanQ, nextQ]
  rw [this, scanQ_append, scanQ_noDQ sep s true h1 (fun h => Bool.noConfusion h)]
  simp [scanQ, nextQ, Ne.symm hs]

theorem qSplitGo_step (sep : Char) (ms : Option Nat) (q : Bool) (n : Nat) (cur : Str) (c : Char) (rest : Str)
    (hns : (!(nextQ q c) && c == sep) = false) (hr : rest ≠ []) (hm : ms ≠ some n) :
    qSplitGo sep ms q n cur (c :: rest) = qSplitGo sep ms (nextQ q c) n (cur ++ [c]) rest := by
  have hr' : rest.isEmpty = false := by cases rest <;> simp_all
  unfold nextQ at hns ⊢
  rw [qSplitGo]
  simp [hns, hr', hm]

theorem qSplitGo_seg (sep : Char) (ms : Option Nat) (n : Nat) (hm : ms ≠ some n) (t : Str) (ht : t ≠ []) :
    ∀ (s : Str) (q q' : Bool) (cur : Str), scanQ sep q s = some q' →
      qSplitGo sep ms q n cur (s ++ t) = qSplitGo sep ms q' n (cur ++ s) t := by
  intro s
  induction s with
  | nil => intro q q' cur h; simp [scanQ] at h; simp [h]
  | cons c cs ih =>
    intro q q' cur h
    simp only [scanQ] at h
    by_cases hns : (!(nextQ q c) && c == sep) = true
    · simp [hns] at h
    · simp only [hns] at h
      have hns' : (!(nextQ q c) && c == sep) = false := by simpa using hns
      rw [List.cons_append, qSplitGo_step sep ms q n cur c (cs ++ t) hns' (by simp [ht]) hm,
        ih _ q' _ h]
      simp

theorem qSplitGo_last (sep : Char) (n : Nat) :
    ∀ (s : Str) (q q' : Bool) (cur : Str), s ≠ [] → scanQ sep q s = some q' →
      qSplitGo sep none q n cur s = [cur ++ s] := by
  intro s
  induction s with
  | nil => intro q q' cur h; exact absurd rfl h
  | cons c cs ih =>
    intro q q' cur _ h
    simp only [scanQ] at h
    by_cases hns : (!(nextQ q c) && c == sep) = true
    · simp [hns] at h
    · simp only [hns] at h
      have hns' : (!(nextQ q c) && c == sep) = false := by simpa using hns
      cases cs with
      | nil => unfold nextQ at hns'; rw [qSplitGo]; simp [hns']
      | cons d ds =>
        rw [qSplitGo_step sep none q n cur c (d :: ds) hns' (by simp) (by simp),
          ih _ q' _ (by simp) h]
        simp

theorem qSplitGo_sep (sep : Char) (hs : sep ≠ DQ) (n : Nat) (cur rest : Str) :
    qSplitGo sep none false n cur (sep :: rest) =
      if rest = [] then [cur, []] else cur :: qSplitGo sep none false (n + 1) [] rest := by
  rw [qSplitGo]
  cases rest with
  | nil => simp [hs]
  | cons d ds => simp [hs]

theorem qSplitGo_join (sep : Char) (hs : sep ≠ DQ) :
    ∀ (rest : List Str) (s : Str) (n : Nat) (cur : Str), joinWith [sep] (s :: rest) ≠ [] →
      (∀ x ∈ s :: rest, Balanced sep x) →
      qSplitGo sep none false n cur (joinWith [sep] (s :: rest)) = (cur ++ s) :: rest := by
  intro rest
  induction rest with
  | nil =>
    intro s n cur hne hb
    simp only [joinWith] at hne ⊢
    exact qSplitGo_last sep n s false false cur hne (hb s (by simp))
  | cons y r ih =>
    intro s n cur hne hb
    have hs' : Balanced sep s := hb s (by simp)
    simp only [joinWith, List.append_assoc, List.singleton_append]
    rw [qSplitGo_seg sep none n (by simp) _ (by simp) s false false cur hs', qSplitGo_sep sep hs]
    split
    · next hj =>
      rcases joinWith_eq_nil sep _ hj with e | e
      · simp at e
      · simp [e]
    · next hj =>
      rw [ih y (n + 1) [] hj (fun x hx => hb x (List.mem_cons_of_mem _ hx))]
      simp

theorem qSplit_join (sep : Char) (hs : sep ≠ DQ) (segs : List Str) (hne : joinWith [sep] segs ≠ [])
    (hb : ∀ s ∈ segs, Balanced sep s) : qSplit (joinWith [sep] segs) sep = segs := by
  unfold qSplit
  have : ((none : Option Nat) == some 0) = false := by simp
  simp only [this]
  cases segs with
  | nil => simp [joinWith] at hne
  | cons a b => rw [if_neg (by simp), qSplitGo_join sep hs b a 0 [] hne hb]; simp

end qsplit

section item

theorem qSplitGo_key (v k cur : Str) (hk : DQ ∉ k ∧ '=' ∉ k) :
    qSplitGo '=' (some 1) false 0 cur (k ++ '=' :: v) = [cur ++ k, v] := by
  rw [qSplitGo_seg '=' (some 1) 0 (by simp) _ (by simp) k false false cur (scanQ_noDQ '=' k false hk.1 (fun _ => hk.2)),
    qSplitGo]
  simp [DQ]

theorem qSplit_key_val (k v : Str) (hk : validToken k = true) :
    qSplit (k ++ '=' :: v) '=' (some 1) = [k, v] := by
  unfold qSplit
  rw [if_neg (by simp), qSplitGo_key v k [] ⟨validToken_noDQ k hk, validToken_noEq k hk⟩]
  simp

theorem parseParam_name_case (strict : Bool) (k k' v : Str) (hk : validToken k = true)
    (hk' : validToken k' = true) (hu : upper k = upper k') :
    parseParam strict (k ++ '=' :: v) = parseParam strict (k' ++ '=' :: v) := by
  unfold parseParam
  rw [qSplit_key_val k v hk, qSplit_key_val k' v hk']
  simp only [hk, hk', hu]

end item

section values

/-- `dquote` output is balanced for every separator that `dquote` quotes: the substitution removes every double quote -/
theorem dquote_balanced_any (sep : Char) (hq : inClass Gen.quotable sep = true) (hs : sep ≠ DQ)
    (v : Str) : Balanced sep (dquote v) := by
  have hv : DQ ∉ rep1 DQ ['\''] v := not_mem_rep1_self DQ _ (by decide) v
  rw [dquote_def]
  split
  · exact balanced_quoted sep hs _ hv
  · next h =>
    refine balanced_plain sep _ hv ?_
    intro hm
    apply h
    rw [List.any_eq_true]
    exact ⟨sep, hm, hq⟩

def ValueOk (x : Str) : Prop := DQ ∉ x ∧ ∀ c ∈ x, inClass Gen.qunsafeChar c = false

instance (x : Str) : Decidable (ValueOk x) := by unfold ValueOk; infer_instance

theorem dropWhileDQ_of_not_mem (l : Str) (h : DQ ∉ l) : l.dropWhile (· == DQ) = l := by
  cases l with
  | nil => rfl
  | cons c cs =>
    simp [(List.ne_of_not_mem_cons h).symm]

theorem stripDQ_quoted (x : Str) (h : DQ ∉ x) : stripDQ (DQ :: x ++ [DQ]) = x := by
  unfold stripDQ
  cases x with
  | nil => simp
  | cons c cs =>
    simp [(List.ne_of_not_mem_cons h).symm]
    exact dropWhileDQ_of_not_mem _ (fun hm => h (by simpa [or_comm] using hm))

theorem startsWithDQ_of_not_mem (x : Str) (h : DQ ∉ x) : startsWithDQ x = false := by
  cases x with
  | nil => rfl
  | cons c cs =>
    simp [startsWithDQ, (List.ne_of_not_mem_cons h).symm]

theorem parse_quoted (y : Str) (hy : ValueOk y) (rest : List Str) :
    parseParamVals false ((DQ :: y ++ [DQ]) :: rest) = (parseParamVals false rest).map (y :: ·) := by
  have s : startsWithDQ (DQ :: y ++ [DQ]) = true := by simp [startsWithDQ]
  have e : endsWithDQ (DQ :: y ++ [DQ]) = true := by
    have : DQ :: y ++ [DQ] = (DQ :: y) ++ [DQ] := by simp
    rw [endsWithDQ, this, List.getLast?_concat]; simp
  have v : validParamValue y true = true := by
    simp only [validParamValue, if_true, Bool.not_eq_true', List.any_eq_false]
    intro c hc; simp [hy.2 c hc]
  rw [parseParamVals]
  simp only [s, e, Bool.and_self, if_true, stripDQ_quoted y hy.1, v]

theorem parse_dquote (x : Str) (hx : ValueOk x) (rest : List Str) :
    parseParamVals false (dquote x :: rest) = (parseParamVals false rest).map (x :: ·) := by
  rw [dquote_of_noDQ x hx.1]
  split
  · exact parse_quoted x hx rest
  · next hq =>
    have s : startsWithDQ x = false := startsWithDQ_of_not_mem x hx.1
    have v : validParamValue x false = true := by
      simp only [validParamValue, Bool.false_eq_true, if_false, Bool.not_eq_true', List.any_eq_false]
      intro c hc hu
      rcases unsafe_sub c hu with h1 | h1
      · simp [hx.2 c hc] at h1
      · exact hq (List.any_eq_true.mpr ⟨c, hc, h1⟩)
    rw [parseParamVals]
    simp [s, v]

end values

section sort

theorem insertByKey_perm (kv : Str × PVal) : ∀ (l : Params), (insertByKey kv l).Perm (kv :: l) := by
  intro l
  induction l with
  | nil => simp [insertByKey]
  | cons x xs ih =>
    simp only [insertByKey]
    split
    · exact List.Perm.refl _
    · exact (List.Perm.cons x ih).trans (List.Perm.swap kv x xs)

theorem sortByKey_perm : ∀ (m : Params), (sortByKey m).Perm m
  | [] => List.Perm.refl _
  | kv :: r => (insertByKey_perm kv _).trans (List.Perm.cons kv (sortByKey_perm r))

/-- the items `Parameters.to_ical` writes are those of the map -/
theorem toIcalItems_perm (p : Params) (sorted : Bool) : (if sorted then sortByKey p else p).Perm p := by
  cases sorted
  · exact List.Perm.refl p
  · exact sortByKey_perm p

def KeySorted (p : Params) : Prop := List.Pairwise (fun a b => strLe a b = true) (p.map Prod.fst)

theorem insertByKey_sorted (kv : Str × PVal) : ∀ (l : Params), KeySorted l → KeySorted (insertByKey kv l)
  | [], _ => by simp [insertByKey, KeySorted]
  | x :: xs, h => by
    have hx := List.pairwise_cons.1 h
    simp only [insertByKey]
    split
    · next hle =>
      refine List.pairwise_cons.2 ⟨fun k hk => ?_, h⟩
      rcases List.mem_cons.1 hk with rfl | hk'
      · exact hle
      · exact strLe_trans _ _ _ hle (hx.1 k hk')
    · next hle =>
      refine List.pairwise_cons.2 ⟨fun k hk => ?_, insertByKey_sorted kv xs hx.2⟩
      rcases List.mem_cons.1 (((insertByKey_perm kv xs).map Prod.fst).mem_iff.1 hk) with rfl | hk'
      · exact strLe_of_not _ _ (by simpa using hle)
      · exact hx.1 k hk'

theorem sortByKey_sorted : ∀ (m : Params), KeySorted (sortByKey m)
  | [] => List.Pairwise.nil
  | kv :: r => insertByKey_sorted kv _ (sortByKey_sorted r)

end sort

section params

def PValOk : PVal → Prop
  | .one x => ValueOk x
  | .many xs => xs ≠ [] ∧ ∀ x ∈ xs, ValueOk x

instance (v : PVal) : Decidable (PValOk v) := by
  cases v <;> unfold PValOk <;> infer_instance

/-- what a `Parameters` object built from strings and lists of strings looks like:
    distinct upper-cased NAME keys, values from the value domain -/
def ParamDomain (m : Params) : Prop :=
  (m.map Prod.fst).Nodup ∧ ∀ kv ∈ m, (validToken kv.1 = true ∧ upper kv.1 = kv.1) ∧ PValOk kv.2

instance (m : Params) : Decidable (ParamDomain m) := by unfold ParamDomain; infer_instance

/-- what the parser stores for a value: a one-element list comes back as its element -/
def canonVal : PVal → PVal
  | .many [x] => .one x
  | v => v

def canon (m : Params) : Params := (sortByKey m).map (fun kv => (kv.1, canonVal kv.2))

theorem ParamDomain.nodup {m : Params} (hd : ParamDomain m) : (m.map Prod.fst).Nodup := hd.1

theorem ParamDomain.token {m : Params} (hd : ParamDomain m) {kv : Str × PVal} (h : kv ∈ m) : validToken kv.1 = true :=
  (hd.2 kv h).1.1

theorem ParamDomain.upper_eq {m : Params} (hd : ParamDomain m) {kv : Str × PVal} (h : kv ∈ m) : upper kv.1 = kv.1 :=
  (hd.2 kv h).1.2

theorem ParamDomain.upper_token {m : Params} (hd : ParamDomain m) {kv : Str × PVal} (h : kv ∈ m) :
    validToken (upper kv.1) = true := by
  rw [hd.upper_eq h]; exact hd.token h

theorem ParamDomain.valOk {m : Params} (hd : ParamDomain m) {kv : Str × PVal} (h : kv ∈ m) : PValOk kv.2 := (hd.2 kv h).2

theorem paramDomain_perm {m m' : Params} (hp : m'.Perm m) (hd : ParamDomain m) : ParamDomain m' :=
  ⟨((hp.map Prod.fst).nodup_iff).mpr hd.1, fun kv hkv => hd.2 kv (hp.mem_iff.mp hkv)⟩

theorem paramDomain_sort (m : Params) (hd : ParamDomain m) : ParamDomain (sortByKey m) :=
  paramDomain_perm (sortByKey_perm m) hd

theorem put_fresh (p : Params) (k : Str) (v : PVal) (h : k ∉ p.map Prod.fst) :
    Params.put p k v = p ++ [(k, v)] := by
  unfold Params.put
  rw [if_neg]
  intro hany
  rw [List.any_eq_true] at hany
  obtain ⟨kv, hkv, he⟩ := hany
  exact h (List.mem_map.mpr ⟨kv, hkv, by simpa using he⟩)

def itemText (kv : Str × PVal) : Str := upper kv.1 ++ ['='] ++ paramValue kv.2

def pvalStrs : PVal → List Str
  | .one x => [x]
  | .many xs => xs

theorem paramValue_ind (Q : Str → Prop) (hnil : Q []) (happ : ∀ a b, Q a → Q b → Q (a ++ b))
    (hcomma : Q [',']) (v : PVal) (hv : ∀ x ∈ pvalStrs v, Q (dquote x)) : Q (paramValue v) := by
  cases v with
  | one x => exact hv x (by simp [pvalStrs])
  | many xs =>
    unfold paramValue qJoin
    refine joinWith_ind Q hnil happ _ hcomma _ ?_
    intro s hs
    obtain ⟨x, hx, rfl⟩ := List.mem_map.mp hs
    exact hv x (by simpa [pvalStrs] using hx)

theorem paramsText_ind (Q : Str → Prop) (hnil : Q []) (happ : ∀ a b, Q a → Q b → Q (a ++ b))
    (hsemi : Q [';']) (heq : Q ['=']) (hcomma : Q [',']) (p : Params) (sorted : Bool)
    (hk : ∀ kv ∈ p, Q (upper kv.1)) (hv : ∀ kv ∈ p, ∀ x ∈ pvalStrs kv.2, Q (dquote x)) :
    Q (paramsToIcal p sorted) := by
  unfold paramsToIcal
  refine joinWith_ind Q hnil happ _ hsemi _ ?_
  intro s hs
  obtain ⟨kv, hkv, rfl⟩ := List.mem_map.mp hs
  have hmem : kv ∈ p := (toIcalItems_perm p sorted).mem_iff.mp hkv
  exact happ _ _ (happ _ _ (hk kv hmem) heq) (paramValue_ind Q hnil happ hcomma kv.2 (hv kv hmem))

theorem pvalOk_strs (v : PVal) (hv : PValOk v) : ∀ x ∈ pvalStrs v, ValueOk x := by
  intro x hx
  cases v with
  | one y => simp only [pvalStrs, List.mem_singleton] at hx; subst hx; exact hv
  | many ys => exact hv.2 x hx

theorem paramsText_ind_domain (Q : Str → Prop) (hnil : Q []) (happ : ∀ a b, Q a → Q b → Q (a ++ b))
    (hsemi : Q [';']) (heq : Q ['=']) (hcomma : Q [',']) (p : Params) (hd : ParamDomain p) (sorted : Bool)
    (hk : ∀ k, validToken k = true → Q k) (hv : ∀ x, ValueOk x → Q (dquote x)) : Q (paramsToIcal p sorted) :=
  paramsText_ind Q hnil happ hsemi heq hcomma p sorted
    (fun _ hkv => hk _ (hd.upper_token hkv))
    (fun kv hkv x hx => hv x (pvalOk_strs kv.2 (hd.valOk hkv) x hx))

theorem paramValue_balanced (sep : Char) (hq : inClass Gen.quotable sep = true) (hs : sep ≠ DQ)
    (hc : Balanced sep [',']) (v : PVal) : Balanced sep (paramValue v) :=
  paramValue_ind (Balanced sep) rfl (fun _ _ => Balanced.append) hc v (fun x _ => dquote_balanced_any sep hq hs x)

theorem keyValue_balanced (k : Str) (v : PVal) (hk : validToken k = true) :
    Balanced ';' (k ++ ['='] ++ paramValue v) :=
  ((balanced_plain ';' k (validToken_noDQ _ hk) (validToken_noSep _ hk)).append (by decide)).append
    (paramValue_balanced ';' quotable_semi (by decide) (by decide) v)

theorem item_balanced (kv : Str × PVal) (hk : validToken kv.1 = true) (hu : upper kv.1 = kv.1) :
    Balanced ';' (itemText kv) := by
  unfold itemText
  rw [hu]
  exact keyValue_balanced kv.1 kv.2 hk

/-- the whole text of `Parameters.to_ical`, for EVERY value (inside the domain or not), shows no
    colon outside double quotes -/
theorem paramsToIcal_balanced_colon (m : Params) (sorted : Bool)
    (hk : ∀ kv ∈ m, validToken (upper kv.1) = true) : Balanced ':' (paramsToIcal m sorted) :=
  paramsText_ind (Balanced ':') rfl (fun _ _ => Balanced.append) (by decide) (by decide) (by decide) m sorted
    (fun kv hkv => balanced_plain ':' _ (validToken_noDQ _ (hk kv hkv)) (token_noColon _ (hk kv hkv)))
    (fun _ _ x _ => dquote_balanced_any ':' quotable_colon (by decide) x)

theorem paramsToIcal_noLF (p : Params) (hd : ParamDomain p) (sorted : Bool) : LF ∉ paramsToIcal p sorted := by
  refine paramsText_ind_domain (fun s => LF ∉ s) (by simp) (fun a b ha hb => by simp [ha, hb]) (by decide)
    (by decide) (by decide) p hd sorted token_noLF ?_
  intro x hok hm
  rcases mem_dquote LF x hok.1 hm with e | e
  · exact absurd e (by decide)
  · have := hok.2 LF e
    rw [qunsafe_LF] at this
    exact Bool.noConfusion this

theorem paramsToIcal_ne_nil (p : Params) (sorted : Bool) (hp : p ≠ []) : paramsToIcal p sorted ≠ [] := by
  have hl := (toIcalItems_perm p sorted).length_eq
  unfold paramsToIcal
  generalize (if sorted = true then sortByKey p else p) = items at hl
  cases items with
  | nil => exact absurd (List.length_eq_zero_iff.mp hl.symm) hp
  | cons kv r => exact joinWith_ne_nil _ _ _ (by simp)

/-- the loop `result[key] = value` over fresh distinct keys appends the pairs in order -/
theorem foldl_put_fresh {α : Type} (k : α → Str) (v : α → PVal) : ∀ (l : List α) (acc : Params),
    (l.map k).Nodup → (∀ a ∈ l, k a ∉ acc.map Prod.fst) →
    l.foldl (fun acc a => Params.put acc (k a) (v a)) acc = acc ++ l.map (fun a => (k a, v a)) := by
  intro l
  induction l with
  | nil => intro acc _ _; simp
  | cons a r ih =>
    intro acc hnd hf
    rw [List.map_cons, List.nodup_cons] at hnd
    rw [List.foldl_cons, put_fresh acc (k a) _ (hf a (by simp)), ih _ hnd.2]
    · simp
    · intro b hb hacc
      rw [List.map_append, List.mem_append] at hacc
      rcases hacc with h | h
      · exact hf b (List.mem_cons_of_mem _ hb) h
      · simp only [List.map_cons, List.map_nil, List.mem_singleton] at h
        exact hnd.1 (h ▸ List.mem_map.mpr ⟨b, hb, rfl⟩)

theorem foldl_some {α σ : Type} (F : Option σ → Str → Option σ) (g : σ → α → σ) (T : α → Str) :
    ∀ (l : List α) (acc : σ), (∀ ps, ∀ a ∈ l, F (some ps) (T a) = some (g ps a)) →
    (l.map T).foldl F (some acc) = some (l.foldl g acc) := by
  intro l
  induction l with
  | nil => intro acc _; rfl
  | cons a r ih =>
    intro acc h
    rw [List.map_cons, List.foldl_cons, h acc a (by simp), List.foldl_cons]
    exact ih _ (fun ps b hb => h ps b (List.mem_cons_of_mem _ hb))

def mapPVal (f : Str → Str) : PVal → PVal
  | .one x => .one (f x)
  | .many xs => .many (xs.map f)

theorem mapPVal_eq_self (f : Str → Str) (v : PVal) (h : ∀ x ∈ pvalStrs v, f x = x) : mapPVal f v = v := by
  cases v with
  | one x => rw [mapPVal, h x (List.mem_singleton.mpr rfl)]
  | many xs => rw [mapPVal, List.map_congr_left (l := xs) (g := id) h, List.map_id]

theorem mapPVal_id (v : PVal) : mapPVal id v = v := mapPVal_eq_self id v (fun _ _ => rfl)

def pvalText (enc : Str → Str) : PVal → Str
  | .one x => enc x
  | .many xs => joinWith [','] (xs.map enc)

def itemTextWith (enc : Str → Str) (kv : Str × PVal) : Str := kv.1 ++ '=' :: pvalText enc kv.2

/-- `enc` writes a value string so that the value loop of `from_ical` reads `dec x` back.  Two
    instances: `dquote` read back as the string itself (the text `to_ical` writes), and the same
    text after the placeholder pass of `parts()`, read back as `escapeString x`. -/
structure ReadsBack (enc dec : Str → Str) : Prop where
  parse : ∀ x, ValueOk x → ∀ rest,
    parseParamVals false (enc x :: rest) = (parseParamVals false rest).map (dec x :: ·)
  balanced : ∀ x, ValueOk x → Balanced ',' (enc x)
  eq_nil : ∀ x, enc x = [] → x = []
  dec_nil : dec [] = []

section readsBack
variable {enc dec : Str → Str} (h : ReadsBack enc dec)
include h

theorem parse_map_enc : ∀ (xs : List Str), (∀ x ∈ xs, ValueOk x) →
    parseParamVals false (xs.map enc) = some (xs.map dec) := by
  intro xs
  induction xs with
  | nil => intro _; rfl
  | cons x r ih =>
    intro hx
    rw [List.map_cons, h.parse x (hx x (by simp)), ih (fun y hy => hx y (List.mem_cons_of_mem _ hy))]
    rfl

theorem parse_encJoin (xs : List Str) (hd : ∀ x ∈ xs, ValueOk x) (hq : joinWith [','] (xs.map enc) ≠ []) :
    parseParamVals false (qSplit (joinWith [','] (xs.map enc)) ',') = some (xs.map dec) := by
  rw [qSplit_join ',' (by decide) _ hq, parse_map_enc h xs hd]
  intro s hs
  obtain ⟨x, hx, rfl⟩ := List.mem_map.mp hs
  exact h.balanced x (hd x hx)

theorem encJoin_eq_nil (xs : List Str) (hne : xs ≠ []) (hq : joinWith [','] (xs.map enc) = []) : xs = [[]] := by
  rcases joinWith_eq_nil ',' _ hq with e | e
  · simp [hne] at e
  · cases xs with
    | nil => simp at e
    | cons x r =>
      cases r with
      | nil => simp at e; rw [h.eq_nil x e]
      | cons y r' => simp at e

theorem parseParam_enc_many (k : Str) (xs : List Str) (hk : validToken k = true) (hu : upper k = k)
    (hne : xs ≠ []) (hv : ∀ x ∈ xs, ValueOk x) :
    parseParam false (k ++ '=' :: joinWith [','] (xs.map enc)) = some (k, canonVal (.many (xs.map dec))) := by
  unfold parseParam
  rw [qSplit_key_val k _ hk]
  simp only [hk, Bool.not_true, Bool.false_eq_true, if_false, hu]
  by_cases he : joinWith [','] (xs.map enc) = []
  · have : xs = [[]] := encJoin_eq_nil h xs hne he
    subst this
    rw [he]
    simp [qSplit, qSplitGo, parseParamVals, canonVal, h.dec_nil]
  · rw [parse_encJoin h xs hv he]
    match xs, hne with
    | [x], _ => simp [canonVal]
    | x :: y :: r, _ => simp [canonVal]

theorem parseParam_enc (k : Str) (v : PVal) (hk : validToken k = true) (hu : upper k = k) (hv : PValOk v) :
    parseParam false (k ++ '=' :: pvalText enc v) = some (k, canonVal (mapPVal dec v)) := by
  cases v with
  | one x => exact parseParam_enc_many h k [x] hk hu (by simp) (fun y hy => by rw [List.mem_singleton.mp hy]; exact hv)
  | many xs => exact parseParam_enc_many h k xs hk hu hv.1 hv.2

theorem paramsFromIcal_enc (s : Params) (hd : ParamDomain s) (hb : ∀ kv ∈ s, Balanced ';' (itemTextWith enc kv)) :
    paramsFromIcal (joinWith [';'] (s.map (itemTextWith enc))) false =
      some (s.map (fun kv => (kv.1, canonVal (mapPVal dec kv.2)))) := by
  unfold paramsFromIcal
  cases s with
  | nil => rfl
  | cons kv r =>
    rw [qSplit_join ';' (by decide) _ (by
      rw [List.map_cons]; exact joinWith_ne_nil _ _ _ (by simp [itemTextWith])) (by
      intro t ht
      obtain ⟨x, hx, rfl⟩ := List.mem_map.mp ht
      exact hb x hx)]
    rw [foldl_some _ (fun ps kv => Params.put ps kv.1 (canonVal (mapPVal dec kv.2))) (itemTextWith enc) (kv :: r) []
      (fun ps x hx => by
        simp only [itemTextWith, parseParam_enc h x.1 x.2 (hd.token hx) (hd.upper_eq hx) (hd.valOk hx)])]
    rw [foldl_put_fresh Prod.fst (fun kv => canonVal (mapPVal dec kv.2)) (kv :: r) [] hd.nodup (by simp)]
    rfl

end readsBack

theorem dquote_readsBack : ReadsBack dquote id :=
  ⟨parse_dquote, fun x _ => dquote_balanced_any ',' quotable_comma (by decide) x, dquote_eq_nil, rfl⟩

theorem parse_qJoin (xs : List Str) (hd : ∀ x ∈ xs, ValueOk x) (hq : qJoin xs ≠ []) :
    parseParamVals false (qSplit (qJoin xs) ',') = some xs := by
  have := parse_encJoin dquote_readsBack xs hd hq
  rw [List.map_id] at this
  exact this

theorem qJoin_eq_nil (xs : List Str) (hne : xs ≠ []) (h : qJoin xs = []) : xs = [[]] :=
  encJoin_eq_nil dquote_readsBack xs hne h

theorem itemText_eq (kv : Str × PVal) (hu : upper kv.1 = kv.1) : itemText kv = itemTextWith dquote kv := by
  have e : ∀ v, paramValue v = pvalText dquote v := fun v => by cases v <;> rfl
  unfold itemText itemTextWith
  rw [hu, e, List.append_assoc, List.singleton_append]

theorem fromIcal_items (s : Params) (hd : ParamDomain s) :
    paramsFromIcal (joinWith [';'] (s.map itemText)) false = some (s.map (fun kv => (kv.1, canonVal kv.2))) := by
  rw [List.map_congr_left (fun kv hkv => itemText_eq kv (hd.upper_eq hkv)),
    paramsFromIcal_enc dquote_readsBack s hd (fun kv hkv => by
      rw [← itemText_eq kv (hd.upper_eq hkv)]
      exact item_balanced kv (hd.token hkv) (hd.upper_eq hkv))]
  simp only [mapPVal_id]

theorem fromIcal_toIcal (m : Params) (hd : ParamDomain m) :
    paramsFromIcal (paramsToIcal m true) false = some (canon m) :=
  fromIcal_items (sortByKey m) (paramDomain_sort m hd)

theorem fromIcal_toIcal_unsorted (m : Params) (hd : ParamDomain m) :
    paramsFromIcal (paramsToIcal m false) false = some (m.map (fun kv => (kv.1, canonVal kv.2))) :=
  fromIcal_items m hd

end params


section read

theorem get?_of_mem : ∀ (p : Params), (p.map Prod.fst).Nodup → ∀ (k : Str) (v : PVal), (k, v) ∈ p →
    p.get? k = some v := by
  intro p
  induction p with
  | nil => intro _ k v h; simp at h
  | cons x r ih =>
    intro hn k v h
    rw [List.map_cons, List.nodup_cons] at hn
    unfold Params.get?
    rw [List.find?_cons]
    rcases List.mem_cons.mp h with e | e
    · subst e; simp
    · have hne : x.1 ≠ k := by
        intro e'
        exact hn.1 (List.mem_map.mpr ⟨(k, v), e, e'.symm⟩)
      have : (x.1 == k) = false := by simpa using hne
      simp only [this]
      exact ih hn.2 k v e

theorem canon_keys (m : Params) : (canon m).map Prod.fst = (sortByKey m).map Prod.fst := by
  simp [canon, List.map_map, Function.comp_def]

theorem canon_nodup (m : Params) (hd : ParamDomain m) : ((canon m).map Prod.fst).Nodup := by
  rw [canon_keys]; exact (paramDomain_sort m hd).nodup

theorem canon_sorted (m : Params) : KeySorted (canon m) := by
  unfold KeySorted; rw [canon_keys]; exact sortByKey_sorted m

theorem canon_mem (m : Params) (kv : Str × PVal) (h : kv ∈ m) : (kv.1, canonVal kv.2) ∈ canon m :=
  List.mem_map.mpr ⟨kv, (sortByKey_perm m).mem_iff.mpr h, rfl⟩

theorem canon_length (m : Params) : (canon m).length = m.length := by
  simp [canon, (sortByKey_perm m).length_eq]

theorem canon_get? (m : Params) (hd : ParamDomain m) (kv : Str × PVal) (h : kv ∈ m) :
    (canon m).get? kv.1 = some (canonVal kv.2) :=
  get?_of_mem _ (canon_nodup m hd) _ _ (canon_mem m kv h)

end read

/-- a concrete map for the non-vacuity checks of C08 -/
def sampleParams : Params :=
  [(['X', '-', 'B'], .many [['a', ',', 'b'], ['c']]),
   (['C', 'N'], .one ['x', ',', ';', ':', ' ', 'y']),
   (['E'], .one []),
   (['A', '.', '1'], .many [['o', 'n', 'e']]),
   (['Z', '_'], .many [[], []])]

end ICal
