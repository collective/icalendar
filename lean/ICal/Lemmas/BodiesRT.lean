/-
  Facts about the runtime of the translated bodies (ICal/Model/PyRT.lean): int-indexed slicing
  and indexing on natural-number arguments (and at `-1`) are `List.drop` / `List.take` / `getElem` / `getLast?`;
  truth values; a comprehension none of whose calls raises is a `List.map`.
-/
import ICal.Model.PyRT
namespace ICal.Bodies
open ICal ICal.PyRT

theorem clampIdx_nat (n a : Nat) : clampIdx n (a : Int) = min a n := by
  have : ¬ ((a : Int) < 0) := by omega
  simp [clampIdx, this]

theorem pySliceFromI_nat (s : Str) (a : Nat) : pySliceFromI s (a : Int) = s.drop a := by
  simp only [pySliceFromI, clampIdx_nat]
  by_cases h : a ≤ s.length
  · rw [Nat.min_eq_left h]
  · have h' : s.length ≤ a := by omega
    rw [Nat.min_eq_right h', List.drop_of_length_le (Nat.le_refl _), List.drop_of_length_le h']

theorem pySliceI_nat (s : Str) (a b : Nat) : pySliceI s (a : Int) (b : Int) = (s.drop a).take (b - a) := by
  simp only [pySliceI, clampIdx_nat]
  by_cases h : a ≤ s.length
  · rw [Nat.min_eq_left h]
    by_cases hb : b ≤ s.length
    · rw [Nat.min_eq_left hb]
    · have hb' : s.length ≤ b := by omega
      rw [Nat.min_eq_right hb', List.take_of_length_le (by simp), List.take_of_length_le (by simp; omega)]
  · have h' : s.length ≤ a := by omega
    rw [Nat.min_eq_right h', List.drop_of_length_le (Nat.le_refl _), List.drop_of_length_le h']
    simp

theorem strIndex_nat (s : Str) (n : Nat) (c : Char) (tl : Str) (h : s.drop n = c :: tl) :
    strIndex s (n : Int) = .ok c := by
  have hlt : n < s.length := by
    by_cases hn : n < s.length
    · exact hn
    · rw [List.drop_of_length_le (by omega)] at h; cases h
  have h1 : ¬ ((n : Int) < -(s.length : Int) ∨ (n : Int) ≥ (s.length : Int)) := by omega
  have hg : s[n]? = some c := by
    have := List.getElem?_drop (xs := s) (i := n) (j := 0)
    rw [h] at this; simpa using this.symm
  simp only [strIndex, h1, if_false, clampIdx_nat, Nat.min_eq_left (Nat.le_of_lt hlt), hg]

theorem strLen_eq (s : Str) : strLen s = (s.length : Int) := rfl

theorem pySliceO_nat (s : Str) (a b : Nat) :
    pySliceO s (some (a : Int)) (some (b : Int)) = (s.drop a).take (b - a) := by
  have := pySliceI_nat s a b
  simpa [pySliceO, optClamp, pySliceI] using this

theorem clamp_neg1 (n : Nat) : clampIdx n (-1) = n - 1 := by
  unfold clampIdx
  by_cases h : n = 0
  · subst h; simp
  · have : (-1 : Int) + (n : Int) = ((n - 1 : Nat) : Int) := by omega
    simp [this]

theorem pySliceToI_neg1 (s : Str) : pySliceToI s (-1) = s.dropLast := by
  simp [pySliceToI, clamp_neg1, List.dropLast_eq_take]

theorem strIndex_neg1 (s : Str) :
    strIndex s (-1) = (match s.getLast? with | some l => .ok l | none => .error .indexError) := by
  unfold strIndex
  cases s with
  | nil => simp
  | cons c r =>
    have hlen : ¬ ((-1 : Int) < -(((c :: r).length : Nat) : Int) ∨ (-1 : Int) ≥ (((c :: r).length : Nat) : Int)) := by
      simp; omega
    simp only [hlen, if_false, clamp_neg1]
    have : (c :: r)[(c :: r).length - 1]? = (c :: r).getLast? := by
      rw [List.getLast?_eq_getElem?]
    rw [this]
    cases h : (c :: r).getLast? with
    | none => simp at h
    | some l => rfl

theorem truthy_nat (n : Nat) : truthy (n : Int) = decide (n ≠ 0) := by
  show ((n : Int) != 0) = _
  by_cases h : n = 0
  · subst h; rfl
  · have : (n : Int) ≠ 0 := by omega
    simp [h]

theorem truthy_str (s : Str) : truthy s = !s.isEmpty := rfl

theorem throw_eq {α : Type} (e : Exc) : (throw e : Py α) = Except.error e := rfl

/-- `[f(x) for x in l]`, every call answering without an exception -/
theorem mapM_ok {α β : Type} (f : α → Py β) (g : α → β) : ∀ (l : List α), (∀ x ∈ l, f x = .ok (g x)) →
    l.mapM f = .ok (l.map g)
  | [], _ => rfl
  | x :: xs, h => by
    rw [List.mapM_cons, h x List.mem_cons_self, mapM_ok f g xs fun y hy => h y (List.mem_cons_of_mem _ hy)]
    rfl

end ICal.Bodies
