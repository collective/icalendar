/-
  The regenerated `vPeriod.__init__` (ICal/Gen/BodiesAdd.lean, tools/py2lean.py) against the hand model of
  ICal/Model/Encode.lean (`periodText`: is the pair accepted; `periodParamsV`: the parameters): the two type checks, the
  `try` - a timedelta as second member gives `end = start + duration`, otherwise `duration = end - start`, then
  `if start > end: raise ValueError` (STRICTLY greater) -, TypeError and OverflowError turned into ValueError, VALUE=PERIOD,
  and the TZID of a datetime start when it is true and not UTC.  The members are opaque in the translation; `+`, `-`, `>`
  are declared by their source text, so another comparison is refused.  Pieces: ICal/Model/AddPieces.lean (`PerObj`).
-/
import ICal.Model.AddPieces
import ICal.Lemmas.BodiesRT
namespace ICal.Bodies
open ICal ICal.PyRT ICal.Enc ICal.Gen.BodiesAdd

/- the pieces the translated text is made of, and the model's side, unfolded wherever they are met -/
attribute [local simp] perIsDatetime perIsDate perIsTimedelta perAdd perSub perGt perTzid Enc.periodText periodParamsV
  tzParamTruthy dtGt bind Except.bind pure Except.pure throw_eq caught Except.map kVALUE kTZID UTC

/-- the constructor accepts the pair exactly when the model's `periodText` does, derives the model's `periodParamsV`, and
    raises nothing but ValueError -/
theorem period_init_eq (a b : PyAtom) :
    periodInitParamsP a b =
      (match Enc.periodText a b with
       | some _ => .ok (periodParamsV a)
       | none => .error .valueError) := by
  unfold periodInitParamsP vPeriod_init
  cases a with
  | date x =>
    cases b with
    | date y => by_cases h : keyLt (PDate.key y) (PDate.key x) = true <;> simp [h]
    | dur s => by_cases h : s < 0 <;> simp [h]
    | dt y => simp
    | time y => simp
  | dt x =>
    cases b with
    | dt y =>
      cases hx : x.tzid with
      | none =>
        cases hy : y.tzid with
        | none => cases hk : keyLt y.wall.key x.wall.key <;> simp [hx, hy, hk]
        | some zy => simp [hx, hy]
      | some zx =>
        cases hy : y.tzid with
        | none => simp [hx, hy]
        | some zy =>
          cases hk : keyLt y.utcWall.key x.utcWall.key <;> simp [hx, hy, hk]
          -- accepted: `if tzid: if tzid != 'UTC'` against the model's one condition
          by_cases h1 : zx = [] <;> by_cases h2 : zx = ['U', 'T', 'C'] <;> simp [h1, h2]
    | dur s =>
      by_cases h : s < 0 <;> cases hx : x.tzid <;> simp [h, hx]
      rename_i zx
      by_cases h1 : zx = [] <;> by_cases h2 : zx = ['U', 'T', 'C'] <;> simp [h1, h2]
    | date y => simp
    | time y => simp
  | dur x => cases b <;> simp
  | time x => cases b <;> simp

end ICal.Bodies
