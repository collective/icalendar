/-
  Octet level of folding: the UTF-8 octets of a folded line, split on the two-octet
  sequence 13 10, are the physical lines.  Helper lemmas for `ICal.C06.fold_bytes_width`
  and `ICal.C06.fold_bytes_utf8`.
-/
import ICal.Lemmas.Fold
namespace ICal

def splitCRLF : List UInt8 → List (List UInt8)
  | [] => [[]]
  | [b] => [[b]]
  | b :: c :: bs =>
    if b = 13 ∧ c = 10 then [] :: splitCRLF bs
    else match splitCRLF (c :: bs) with
      | [] => [[b]]
      | hd :: tl => (b :: hd) :: tl

theorem ofNat_eq_ten (n : Nat) (h : UInt8.ofNat n = 10) : n % 256 = 10 := by
  have h2 : (UInt8.ofNat n).toNat = 10 := by rw [h]; rfl
  simpa using h2

/-- lead and continuation octets of a multi-octet encoding are at least 128 -/
theorem ofNat_ne_ten (x m k : Nat) (hmk : 0 < m ∧ 128 ≤ k ∧ k + m ≤ 256) :
    (10 : UInt8) ≠ UInt8.ofNat (x % m + k) := by
  intro h
  have h1 := ofNat_eq_ten _ h.symm
  have h2 := Nat.mod_lt x hmk.1
  omega

theorem lf_of_mem_encode (c : Char) (h : (10 : UInt8) ∈ String.utf8EncodeChar c) : c = LF := by
  unfold String.utf8EncodeChar at h
  simp only [] at h
  by_cases h1 : c.val.toNat ≤ 0x7f
  · rw [if_pos h1] at h
    have := ofNat_eq_ten _ (List.mem_singleton.mp h).symm
    have hv : c.val.toNat = 10 := by omega
    exact Char.ext (UInt32.toNat_inj.mp hv)
  · rw [if_neg h1] at h
    by_cases h2 : c.val.toNat ≤ 0x7ff
    · rw [if_pos h2] at h
      simp only [List.mem_cons, List.not_mem_nil, or_false] at h
      rcases h with h | h <;> exact absurd h (ofNat_ne_ten _ _ _ (by decide))
    · rw [if_neg h2] at h
      by_cases h3 : c.val.toNat ≤ 0xffff
      · rw [if_pos h3] at h
        simp only [List.mem_cons, List.not_mem_nil, or_false] at h
        rcases h with h | h | h <;> exact absurd h (ofNat_ne_ten _ _ _ (by decide))
      · rw [if_neg h3] at h
        simp only [List.mem_cons, List.not_mem_nil, or_false] at h
        rcases h with h | h | h | h <;> exact absurd h (ofNat_ne_ten _ _ _ (by decide))
theorem ten_not_mem_utf8 (s : Str) (h : LF ∉ s) : (10 : UInt8) ∉ utf8 s := by
  intro hm
  simp only [utf8, List.mem_flatMap] at hm
  obtain ⟨c, hc, hcm⟩ := hm
  exact h (lf_of_mem_encode c hcm ▸ hc)

theorem splitCRLF_plain (p : List UInt8) (h : (10 : UInt8) ∉ p) : splitCRLF p = [p] := by
  induction p with
  | nil => simp [splitCRLF]
  | cons b bs ih =>
    have hbs : (10 : UInt8) ∉ bs := by intro e; apply h; simp [e]
    have ih := ih hbs
    cases bs with
    | nil => simp [splitCRLF]
    | cons d ds =>
      have hd : d ≠ 10 := by intro e; apply h; simp [e]
      rw [splitCRLF]
      simp only [hd, and_false, if_false, ih]

/-- the last piece of an octet string, and what a following CR LF does to the split -/
theorem splitCRLF_append (a t : List UInt8) :
    ∃ init last, splitCRLF a = init ++ [last] ∧
      splitCRLF (a ++ 13 :: 10 :: t) = init ++ last :: splitCRLF t := by
  fun_induction splitCRLF a with
  | case1 => exact ⟨[], [], rfl, by simp [splitCRLF]⟩
  | case2 b => exact ⟨[], [b], rfl, by simp [splitCRLF]⟩
  | case3 b c bs h ih =>
    obtain ⟨init, last, h1, h2⟩ := ih
    refine ⟨[] :: init, last, by simp [h1], ?_⟩
    simp [splitCRLF, h, h2]
  | case4 b c bs h hnil ih =>
    obtain ⟨init, last, h1, _⟩ := ih
    rw [hnil] at h1; simp at h1
  | case5 b c bs h hd tl heq ih =>
    obtain ⟨init, last, h1, h2⟩ := ih
    rw [heq] at h1
    have e : (b :: c :: bs) ++ 13 :: 10 :: t = b :: c :: (bs ++ 13 :: 10 :: t) := by simp
    have e2 : c :: (bs ++ 13 :: 10 :: t) = (c :: bs) ++ 13 :: 10 :: t := by simp
    rw [e, splitCRLF, if_neg h, e2, h2]
    cases init with
    | nil =>
      simp at h1; obtain ⟨rfl, rfl⟩ := h1
      exact ⟨[], b :: hd, rfl, rfl⟩
    | cons i is =>
      simp at h1; obtain ⟨rfl, rfl⟩ := h1
      exact ⟨(b :: hd) :: is, last, rfl, rfl⟩

/-- an octet string without 10 followed by 13 10: the break is found exactly there
    (a trailing 13 of `p` stays in `p`, because 13 13 is not a break) -/
theorem splitCRLF_line (p t : List UInt8) (h : (10 : UInt8) ∉ p) :
    splitCRLF (p ++ 13 :: 10 :: t) = p :: splitCRLF t := by
  obtain ⟨init, last, h1, h2⟩ := splitCRLF_append p t
  rw [splitCRLF_plain p h] at h1
  cases init with
  | nil => cases h1; exact h2
  | cons i is => cases is <;> cases h1

theorem utf8_append (a b : Str) : utf8 (a ++ b) = utf8 a ++ utf8 b := by
  simp [utf8]

theorem utf8_sep3 : utf8 sep3 = [13, 10, 32] := by decide

theorem utf8_SP_cons (s : Str) : utf8 (SP :: s) = 32 :: utf8 s := by
  have : utf8 (SP :: s) = utf8 [SP] ++ utf8 s := by rw [← utf8_append]; rfl
  rw [this]
  have : utf8 [SP] = [32] := by decide
  rw [this]; rfl

/-- the physical lines of a folded line: the first segment, then SP + segment for each
    further segment -/
theorem splitCRLF_join (s : Str) (ss : List Str) (h : ∀ x ∈ s :: ss, LF ∉ x) :
    ∀ pre : List UInt8, (10 : UInt8) ∉ pre →
    splitCRLF (pre ++ utf8 (joinSegs sep3 (s :: ss))) =
      (pre ++ utf8 s) :: ss.map (fun x => utf8 (SP :: x)) := by
  induction ss generalizing s with
  | nil =>
    intro pre hpre
    simp only [joinSegs, List.map_nil]
    apply splitCRLF_plain
    intro hm
    rcases List.mem_append.mp hm with hm | hm
    · exact hpre hm
    · exact ten_not_mem_utf8 s (h s (by simp)) hm
  | cons t ts ih =>
    intro pre hpre
    have hs := ten_not_mem_utf8 s (h s (by simp))
    have ih := ih t (fun x hx => h x (by simp at hx ⊢; right; exact hx)) [32] (by decide)
    simp only [joinSegs, utf8_append, utf8_sep3, List.map_cons, utf8_SP_cons]
    have e : pre ++ (utf8 s ++ [13, 10, 32] ++ utf8 (joinSegs sep3 (t :: ts))) =
        (pre ++ utf8 s) ++ 13 :: 10 :: ([32] ++ utf8 (joinSegs sep3 (t :: ts))) := by simp
    rw [e, splitCRLF_line _ _ (by
      intro hm
      rcases List.mem_append.mp hm with hm | hm
      · exact hpre hm
      · exact hs hm), ih]
    simp [utf8_SP_cons]

theorem splitCRLF_join_mem (segs : List Str) (h : ∀ x ∈ segs, LF ∉ x) :
    ∀ p ∈ splitCRLF (utf8 (joinSegs sep3 segs)),
      p = [] ∨ ∃ x ∈ segs, p = utf8 x ∨ p = utf8 (SP :: x) := by
  intro p hp
  cases segs with
  | nil =>
    left
    simpa [joinSegs, utf8, splitCRLF] using hp
  | cons s ss =>
    right
    have := splitCRLF_join s ss h [] (by simp)
    simp only [List.nil_append] at this
    rw [this] at hp
    rcases List.mem_cons.mp hp with rfl | hp
    · exact ⟨s, by simp, Or.inl rfl⟩
    · obtain ⟨x, hx, rfl⟩ := List.mem_map.mp hp
      exact ⟨x, by simp [hx], Or.inr rfl⟩

theorem utf8_length (l : Str) : (utf8 l).length = octets l := by
  induction l with
  | nil => simp [utf8, octets]
  | cons c cs ih =>
    have : utf8 (c :: cs) = String.utf8EncodeChar c ++ utf8 cs := by simp [utf8]
    rw [this, List.length_append, ih, octets_cons]
    simp [w]

end ICal
