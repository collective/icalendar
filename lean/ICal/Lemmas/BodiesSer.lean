/-
  Equality of the regenerated `Component.property_items` (ICal/Gen/BodiesSer.lean, tools/py2lean.py: the
  recursion over the tree, the loops over the property names, over a list of values and over the
  subcomponents, the `sorted` / `recursive` flags, the recursive call `subcomponent.property_items(sorted=sorted)`
  with its arguments bound by the signature) with the hand model `items` of ICal/Model/Ser.lean.
  The external pieces are parameters, instantiated with what the hand model says of them:
  `vText(name).to_ical()` = `escapeChar name`, `sorted_keys()` = `canonsort` of the keys by the class's
  canonical order, `keys()` = the stored names, `self[name]` = the entry of that name (KeyError without one).
  `pyItems` is the list of (name, object) pairs; `ivItem` is what the serialiser observes of a pair.
-/
import ICal.Model.SerPieces
import ICal.Lemmas.CDict
import ICal.Lemmas.Ser
namespace ICal.Bodies
open ICal ICal.PyRT ICal.Gen.BodiesSer

def entryPyItems (props : List Entry) (n : Str) : List PyItem :=
  match props.find? (fun e => e.name == n) with
  | some e => e.vals.map (fun v => (n, PyIV.obj v))
  | none => []

mutual
def pyItems (sorted : Bool) : Comp → List PyItem
  | .mk name props subs =>
    (['B','E','G','I','N'], PyIV.bytes (escapeChar name)) :: ((propNames sorted name props).flatMap (entryPyItems props)
      ++ pyItemsL sorted subs ++ [(['E','N','D'], PyIV.bytes (escapeChar name))])
def pyItemsL (sorted : Bool) : List Comp → List PyItem
  | [] => []
  | c :: cs => pyItems sorted c ++ pyItemsL sorted cs
end

theorem entry_items (props : List Entry) (n : Str) : (entryPyItems props n).map ivItem = entryItems props n := by
  simp only [entryPyItems, entryItems]
  cases props.find? (fun e => e.name == n) <;> simp [ivItem, Function.comp_def]

mutual
theorem pyItems_items (sorted : Bool) : ∀ c, (pyItems sorted c).map ivItem = items sorted c
  | .mk name props subs => by
    simp only [pyItems, items, List.map_cons, List.map_append, pyItemsL_items sorted subs, List.map_flatMap,
      entry_items props, ivItem, beginItem, endItem, List.map_nil]
theorem pyItemsL_items (sorted : Bool) : ∀ cs, (pyItemsL sorted cs).map ivItem = itemsList sorted cs
  | [] => rfl
  | c :: cs => by simp only [pyItemsL, itemsList, List.map_append, pyItems_items sorted c, pyItemsL_items sorted cs]
end

theorem loop2_eq (name : Str) : ∀ (vs : List Val) (acc : List PyItem),
    Component_property_items_loop2 nameToIcalP sortedKeysP keysP getitemP name acc vs =
      .ok (acc ++ vs.map (fun v => (name, PyIV.obj v))) := by
  intro vs
  induction vs with
  | nil => intro acc; simp [Component_property_items_loop2, pure, Except.pure]
  | cons v rest ih => intro acc; simp only [Component_property_items_loop2]; rw [ih]; simp

/-- `self[name]` hands out the list of the values, or the one value of a property that is not a list -/
theorem entryVals_cases (e : Entry) : entryVals e = .many e.vals ∨ ∃ v, e.vals = [v] ∧ entryVals e = .one v := by
  unfold entryVals
  by_cases hl : e.isList = true
  · exact Or.inl (if_pos hl)
  · rw [if_neg hl]
    match e.vals with
    | [v] => exact Or.inr ⟨v, rfl, rfl⟩
    | [] => exact Or.inl rfl
    | _ :: _ :: _ => exact Or.inl rfl

theorem loop1_eq (name' : Str) (props' : List Entry) (subs' : List Comp) : ∀ (ns : List Str) (acc : List PyItem),
    (∀ n ∈ ns, ∃ e, props'.find? (fun e => e.name == n) = some e) →
    Component_property_items_loop1 nameToIcalP sortedKeysP keysP getitemP name' props' subs' acc ns =
      .ok (acc ++ ns.flatMap (entryPyItems props')) := by
  intro ns
  induction ns with
  | nil => intro acc _; simp [Component_property_items_loop1, pure, Except.pure]
  | cons n rest ih =>
    intro acc h
    obtain ⟨e, he⟩ := h n (by simp)
    have hrest : ∀ m ∈ rest, ∃ e, props'.find? (fun e => e.name == m) = some e := fun m hm => h m (by simp [hm])
    simp only [Component_property_items_loop1, getitemP, Comp.props, he, bind, Except.bind, List.flatMap_cons, entryPyItems]
    rcases entryVals_cases e with hv | ⟨v, hv1, hv⟩
    · simp only [hv, PyVals.isList, if_true, PyVals.elems, loop2_eq, pure, Except.pure]
      rw [ih _ hrest, List.append_assoc]
    · simp only [hv, hv1, PyVals.isList, PyVals.toIV, Bool.false_eq_true, if_false, pure, Except.pure]
      rw [ih _ hrest, List.append_assoc]; rfl

/-- `sorted_keys()` / `keys()` return stored names, so `self[name]` finds an entry -/
theorem names_found (sorted : Bool) (name : Str) (props : List Entry) :
    ∀ n ∈ propNames sorted name props, ∃ e, props.find? (fun e => e.name == n) = some e :=
  fun n hn => find_name_of_mem props n ((mem_propNames_iff sorted name props n).1 hn)

mutual
theorem property_items_eq (sorted : Bool) : ∀ c,
    Component_property_items (name_to_ical := nameToIcalP) (sorted_keys := sortedKeysP) (keys := keysP) (getitem := getitemP) c true sorted = .ok (pyItems sorted c)
  | .mk name props subs => by
    have hnames : (if sorted = true then sortedKeysP (.mk name props subs) else keysP (.mk name props subs)) =
        propNames sorted name props := rfl
    simp only [Component_property_items, pyItems, hnames, bind, Except.bind, pure, Except.pure, if_true]
    rw [loop1_eq name props subs _ _ (names_found sorted name props)]
    simp only [loop3_eq sorted subs]
    simp [nameToIcalP]
theorem loop3_eq (sorted : Bool) : ∀ (cs : List Comp) (acc : List PyItem),
    Component_property_items_loop3 nameToIcalP sortedKeysP keysP getitemP sorted acc cs = .ok (acc ++ pyItemsL sorted cs)
  | [], acc => by simp [Component_property_items_loop3, pyItemsL, pure, Except.pure]
  | c :: cs, acc => by
    simp only [Component_property_items_loop3, property_items_eq sorted c, bind, Except.bind, pyItemsL]
    rw [loop3_eq sorted cs]; simp
end

/-- `property_items(sorted=..)` as the serialiser sees it is the hand model's `items` -/
theorem property_items_items (sorted : Bool) (c : Comp) :
    ∃ l, Component_property_items (name_to_ical := nameToIcalP) (sorted_keys := sortedKeysP) (keys := keysP) (getitem := getitemP) c true sorted = .ok l ∧
      l.map ivItem = items sorted c :=
  ⟨pyItems sorted c, property_items_eq sorted c, pyItems_items sorted c⟩

end ICal.Bodies
