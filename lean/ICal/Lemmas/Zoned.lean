/-
  Lemmas for C11 (model: ICal/Model/Zoned.lean).  The DATE-TIME text codec is reused from C03
  (`C03.datetime_rt`, `C03.duration_rt`) and from Lemmas/Codec (shape of the encoder output, dispatch of
  `vDDDTypes.from_ical`, `str.split`).  Here: the provider laws (hypotheses, never axioms), what
  `TZP.timezone` answers under them, the decoders on encoder output for any resolved zone, lists, periods,
  and `localize_utc`.
-/
import ICal.Lemmas.Civil
import ICal.Lemmas.Codec
import ICal.Props.C03
namespace ICal.Zoned
open ICal ICal.Codec

/-- What C11 assumes of the time zone library, for the ids `ids` it lists (not provable: it is the tz
    database; checked for every id of zoneinfo and pytz by harness/props/C11.py):
    asking for a listed id gives a zone whose id is that id; listed ids need no cleaning and are not
    empty (`if tzid:` in vDatetime / vPeriod / vDDDLists drops an empty id); the zone
    `localize_utc` attaches is called `UTC` and has offset 0. -/
structure ProviderLaws {Z : Type} (P : Provider Z) (ids : Str → Prop) : Prop where
  ids_zone : ∀ k, ids k → ∃ z, P.zone k = some z ∧ P.key z = k
  ids_clean : ∀ k, ids k → cleanTzid k = k
  ids_nonempty : ∀ k, ids k → k ≠ []
  utc_key : P.key P.utc = UTC
  utc_off : ∀ w, P.off P.utc w = 0

/-- `z` is the provider's own zone object for its id (not one of another library with the same id) -/
def Own {Z : Type} (P : Provider Z) (z : Z) : Prop := P.zone (P.key z) = some z

theorem tzpTimezone_clean {Z : Type} (P : Provider Z) (id : Str) (z : Z)
    (h : P.zone (cleanTzid id) = some z) : tzpTimezone P id = some z := by
  unfold tzpTimezone
  simp only [h]

theorem tzpTimezone_ids {Z : Type} {P : Provider Z} {ids : Str → Prop} (hl : ProviderLaws P ids)
    (k : Str) (hk : ids k) : ∃ z, P.zone k = some z ∧ P.key z = k ∧ tzpTimezone P k = some z := by
  obtain ⟨z, hz, hkey⟩ := hl.ids_zone k hk
  exact ⟨z, hz, hkey, tzpTimezone_clean P k z (by rw [hl.ids_clean k hk]; exact hz)⟩

theorem tzpTimezone_own {Z : Type} {P : Provider Z} {ids : Str → Prop} (hl : ProviderLaws P ids) (z : Z)
    (hown : Own P z) (hk : ids (P.key z)) : tzpTimezone P (P.key z) = some z :=
  tzpTimezone_clean P _ z (by rw [hl.ids_clean _ hk]; exact hown)

theorem tzpTimezone_unclean {Z : Type} (P : Provider Z) (id : Str) (z : Z)
    (h : P.zone (cleanTzid id) = some z) : tzpTimezone P id = tzpTimezone P (cleanTzid id) ∨
      tzpTimezone P id = some z := Or.inr (tzpTimezone_clean P id z h)

theorem Wall.valid_toP (w : Wall) (b : Bool) (h : w.valid = true) : (w.toP b).valid = true := by
  simpa [Wall.valid, Wall.toP, PDateTime.valid] using h

theorem Wall.ofP_toP (w : Wall) (b : Bool) : Wall.ofP (w.toP b) = w := rfl

theorem dtText_Z (w : Wall) : vDatetimeTo (w.toP true) = vDatetimeTo (w.toP false) ++ ['Z'] := by
  simp [vDatetimeTo, Wall.toP]

theorem dtText_length (w : Wall) (b : Bool) (h : w.valid = true) :
    (vDatetimeTo (w.toP b)).length = if b then 16 else 15 := by
  -- both texts are DATE-TIME texts, of 15 or 16 characters, and the one with `Z` is one longer
  have hf := (sig_datetime (rfcDateTime_vDatetimeTo _ (Wall.valid_toP w false h))).1
  have ht := (sig_datetime (rfcDateTime_vDatetimeTo _ (Wall.valid_toP w true h))).1
  rw [dtText_Z, List.length_append, List.length_singleton] at ht
  cases b
  · rw [if_neg Bool.false_ne_true]; omega
  · rw [dtText_Z, List.length_append, List.length_singleton, if_pos rfl]; omega

theorem dtText_take15 (w : Wall) (b : Bool) (h : w.valid = true) :
    (vDatetimeTo (w.toP b)).take 15 = vDatetimeTo (w.toP false) := by
  have hf : (vDatetimeTo (w.toP false)).length = 15 := dtText_length w false h
  cases b
  · exact List.take_of_length_le (Nat.le_of_eq hf)
  · rw [dtText_Z, List.take_left' hf]

theorem dtText_head (w : Wall) (b : Bool) (h : w.valid = true) :
    ∃ c cs, vDatetimeTo (w.toP b) = c :: cs ∧ isDigit c = true :=
  (sig_datetime (rfcDateTime_vDatetimeTo _ (Wall.valid_toP w b h))).2.1

theorem dtChar_ne_comma (c : Char) (h : dtChar c = true) : c ≠ ',' := by
  intro e; subst e; revert h; decide

theorem nocomma_dtText (w : Wall) (b : Bool) (h : w.valid = true) : ',' ∉ vDatetimeTo (w.toP b) :=
  fun hm => dtChar_ne_comma _ (dtChars_vDatetimeTo _ (Wall.valid_toP w b h) _ hm) rfl

theorem noslash_dtText (w : Wall) (b : Bool) (h : w.valid = true) : '/' ∉ vDatetimeTo (w.toP b) :=
  noslash_vDatetimeTo _ (Wall.valid_toP w b h)

theorem nocomma_durTo (s : Int) : ',' ∉ durTo s := by
  intro h
  have := List.all_eq_true.1 (durChars_durTo s) _ h
  revert this; decide

variable {Z : Type} (P : Provider Z)

theorem dtFrom_some (z : Z) (w : Wall) (b : Bool) (h : w.valid = true) :
    dtFrom P (some z) (vDatetimeTo (w.toP b)) = .ok ⟨w, some z⟩ := by
  have hrt := C03.datetime_rt _ (Wall.valid_toP w false h)
  unfold dtFrom
  simp only []
  rw [dtText_take15 w b h, hrt]
  rfl

theorem dtFrom_none (w : Wall) (b : Bool) (h : w.valid = true) :
    dtFrom P none (vDatetimeTo (w.toP b)) = .ok ⟨w, if b then some P.utc else none⟩ := by
  have hrt := C03.datetime_rt _ (Wall.valid_toP w b h)
  unfold dtFrom
  simp only []
  rw [hrt]
  rfl

/-- what comes back for a value written with flag `b` when the reader resolved `tz` -/
def reread (tz : Option Z) (w : Wall) (b : Bool) : ZDT Z :=
  match tz with
  | some z => ⟨w, some z⟩
  | none => ⟨w, if b then some P.utc else none⟩

theorem dtFrom_text (tz : Option Z) (w : Wall) (b : Bool) (h : w.valid = true) :
    dtFrom P tz (vDatetimeTo (w.toP b)) = .ok (reread P tz w b) := by
  cases tz with
  | none => exact dtFrom_none P w b h
  | some z => exact dtFrom_some P z w b h

theorem dddCoreZ_dtText (per : Str → CRes (Item Z)) (tz : Option Z)
    (w : Wall) (b : Bool) (h : w.valid = true) :
    dddCoreZ P per tz (vDatetimeTo (w.toP b)) = .ok (.val (.dt (reread P tz w b))) := by
  obtain ⟨c, cs, ht, hc⟩ := dtText_head w b h
  have hall := dtChars_vDatetimeTo _ (Wall.valid_toP w b h)
  have hlen := dtText_length w b h
  have hfrom := dtFrom_text P tz w b h
  rw [ht] at hall hlen hfrom ⊢
  unfold dddCoreZ
  simp only []
  rw [durPrefix_digit c cs hc, upper_dtChars _ hall, noslash_dtChars _ hall]
  have hl : cs.length = 14 ∨ cs.length = 15 := by
    simp only [List.length_cons] at hlen
    cases b <;> simp at hlen <;> omega
  rcases hl with hl | hl <;> simp [hl, hfrom]

theorem dddCoreZ_durTo (per : Str → CRes (Item Z)) (tz : Option Z) (s : Int) :
    dddCoreZ P per tz (durTo s) = .ok (.val (.dur s)) := by
  have hP : upperC 'P' = 'P' := by decide
  have hm : upperC '-' = '-' := by decide
  have hp : upperC '+' = '+' := by decide
  have hd : durFromE (durTo s) = .ok s := durFromE_of (C03.duration_rt s)
  obtain ⟨x, hx⟩ := durTo_prefix s
  unfold dddCoreZ
  rw [hd]
  rcases hx with hx | hx | hx <;> rw [hx] <;> simp [upper, startsWith, hP, hm, hp]

def endOk : Val Z → Prop
  | .dt v => v.wall.valid = true
  | .dur _ => True
  | _ => False

def rereadVal (tz : Option Z) : Val Z → Val Z
  | .dt v => .dt (reread P tz v.wall (isUtc P v))
  | x => x

theorem dddCoreZ_end (per : Str → CRes (Item Z)) (tz : Option Z) (e : Val Z)
    (he : endOk e) : dddCoreZ P per tz (valText P e) = .ok (.val (rereadVal P tz e)) := by
  cases e with
  | dt v => exact dddCoreZ_dtText P per tz v.wall (isUtc P v) he
  | dur s => exact dddCoreZ_durTo P per tz s
  | date d => exact he.elim
  | time t => exact he.elim

theorem noslash_end (e : Val Z) (he : endOk e) : '/' ∉ valText P e := by
  cases e with
  | dt v => exact noslash_dtText v.wall _ he
  | dur s => exact noslash_durTo s
  | date d => exact he.elim
  | time t => exact he.elim

theorem nocomma_end (e : Val Z) (he : endOk e) : ',' ∉ valText P e := by
  cases e with
  | dt v => exact nocomma_dtText v.wall _ he
  | dur s => exact nocomma_durTo s
  | date d => exact he.elim
  | time t => exact he.elim

theorem itemText_period (v : ZDT Z) (e : Val Z) :
    itemText P (.period (.dt v) e) = vDatetimeTo (v.wall.toP (isUtc P v)) ++ '/' :: valText P e := rfl

theorem periodFromZ_text (tz : Option Z) (v : ZDT Z) (e : Val Z)
    (hv : v.wall.valid = true) (he : endOk e) :
    periodFromZ P tz (itemText P (.period (.dt v) e)) =
      .ok (.period (.dt (reread P tz v.wall (isUtc P v))) (rereadVal P tz e)) := by
  unfold periodFromZ
  rw [itemText_period, splitOnChar_append '/' _ _ (noslash_dtText v.wall _ hv), splitOnChar_nosep '/' _ (noslash_end P e he)]
  simp only [dddCoreZ_dtText P _ tz v.wall _ hv, dddCoreZ_end P _ tz e he]

theorem dddFromZ_period (tz : Option Z) (v : ZDT Z) (e : Val Z)
    (hv : v.wall.valid = true) (he : endOk e) :
    dddFromZ P tz (itemText P (.period (.dt v) e)) =
      .ok (.period (.dt (reread P tz v.wall (isUtc P v))) (rereadVal P tz e)) := by
  rw [← periodFromZ_text P tz v e hv he]
  obtain ⟨c, cs, ht, hc⟩ := dtText_head v.wall (isUtc P v) hv
  unfold dddFromZ dddCoreZ
  rw [itemText_period, ht, List.cons_append]
  have hsl : (upper (c :: (cs ++ '/' :: valText P e))).contains '/' = true := by
    have : upperC '/' = '/' := by decide
    simp [upper, this]
  simp only []
  rw [durPrefix_digit c _ hc, hsl]
  simp only [Bool.false_eq_true, if_false, if_true]

theorem nocomma_period (v : ZDT Z) (e : Val Z)
    (hv : v.wall.valid = true) (he : endOk e) : ',' ∉ itemText P (.period (.dt v) e) := by
  rw [itemText_period]
  simp only [List.mem_append, List.mem_cons]
  rintro (h | h | h)
  · exact nocomma_dtText v.wall _ hv h
  · revert h; decide
  · exact nocomma_end P e he h

theorem mapE_map {α β γ : Type} (f : α → CRes β) (g : γ → α) (r : γ → β) (xs : List γ)
    (h : ∀ x ∈ xs, f (g x) = .ok (r x)) : mapE f (xs.map g) = .ok (xs.map r) := by
  induction xs with
  | nil => rfl
  | cons x rest ih =>
    simp only [List.map_cons, mapE, h x (by simp), ih (fun y hy => h y (by simp [hy]))]

theorem listFromZ_dts (tz : Option Z) (vs : List (ZDT Z)) (hne : vs ≠ [])
    (hv : ∀ v ∈ vs, v.wall.valid = true) :
    listFromZ P tz (listText P (vs.map fun v => .val (.dt v))) =
      .ok (vs.map fun v => .val (.dt (reread P tz v.wall (isUtc P v)))) := by
  unfold listFromZ listText
  rw [List.map_map, splitOnChar_joinWith ',' _ (by simpa using hne)]
  · exact mapE_map (dddFromZ P tz) _ _ vs fun v hm => dddCoreZ_dtText P _ tz v.wall _ (hv v hm)
  · exact List.forall_mem_map.2 fun v hm => nocomma_dtText v.wall _ (hv v hm)

/-- the TZID loop of `vDDDLists.__init__` over items that all carry the same TZID `t` (or all none) -/
theorem lastTzid_const (ps : List DParams) (t acc : Option Str) (hne : ps ≠ []) (hacc : acc = none ∨ acc = t)
    (h : ∀ p ∈ ps, p.tzid = t) : lastTzid ps acc = t := by
  induction ps generalizing acc with
  | nil => exact absurd rfl hne
  | cons p rest ih =>
    have e : lastTzid (p :: rest) acc = lastTzid rest t := by
      rw [lastTzid, h p (by simp)]
      cases t with
      | some k => rfl
      | none => rcases hacc with rfl | rfl <;> rfl
    rw [e]
    cases rest with
    | nil => rfl
    | cons q qs => exact ih _ (by simp) (.inr rfl) (fun x hx => h x (by simp [hx]))

theorem uniformValue_const (ps : List DParams) (v : Option Str) (hne : ps ≠ [])
    (h : ∀ p ∈ ps, p.value = v) : uniformValue ps = v := by
  cases ps with
  | nil => exact absurd rfl hne
  | cons p rest =>
    have hp := h p (by simp)
    have : rest.all (fun q => q.value == p.value) = true := by
      rw [List.all_eq_true]; intro q hq; simp [h q (by simp [hq]), hp]
    show (if (rest.all fun q => q.value == p.value) = true then p.value else none) = v
    rw [if_pos this]
    exact hp

theorem dddTzid_zoned (w : Wall) (z : Z) (h : P.key z ≠ UTC) :
    dddTzid P ⟨w, some z⟩ = some (P.key z) := by
  simp [dddTzid, tzidFromDt, h]

theorem dddTzid_utc (w : Wall) (z : Z) (h : P.key z = UTC) :
    dddTzid P ⟨w, some z⟩ = none := by
  simp [dddTzid, tzidFromDt, h]

theorem isUtc_zoned (w : Wall) (z : Z) (h : P.key z ≠ UTC) :
    isUtc P ⟨w, some z⟩ = false := by
  simp [isUtc, tzidFromDt, h]

theorem isUtc_utc (w : Wall) (z : Z) (h : P.key z = UTC) :
    isUtc P ⟨w, some z⟩ = true := by
  simp [isUtc, tzidFromDt, h]

theorem isUtc_floating (w : Wall) : isUtc P ⟨w, none⟩ = false := by
  simp [isUtc, tzidFromDt]

theorem vdtTzid_zoned (w : Wall) (z : Z) (h : P.key z ≠ UTC) (h' : P.key z ≠ []) :
    vdtTzid P ⟨w, some z⟩ = some (P.key z) := by
  simp [vdtTzid, tzidFromDt, h, h']

theorem vdtTzid_utc (w : Wall) (z : Z) (h : P.key z = UTC) : vdtTzid P ⟨w, some z⟩ = none := by
  simp [vdtTzid, tzidFromDt, h]

theorem listParams_dts (vs : List (ZDT Z)) (hne : vs ≠ []) (t : Option Str)
    (h : ∀ v ∈ vs, dddTzid P v = t) :
    listParams P (vs.map fun v => .val (.dt v)) =
      ⟨none, match t with | some k => if k = [] then none else some k | none => none⟩ := by
  have hne2 : (vs.map fun v => Item.val (.dt v)).map (itemParams P) ≠ [] := by simpa using hne
  have h1 : ∀ p ∈ (vs.map fun v => Item.val (.dt v)).map (itemParams P), p.tzid = t := by
    simp only [List.map_map, List.forall_mem_map]
    exact h
  have h2 : ∀ p ∈ (vs.map fun v => Item.val (.dt v)).map (itemParams P), p.value = none := by
    simp only [List.map_map, List.forall_mem_map]
    exact fun _ _ => rfl
  unfold listParams
  simp only [uniformValue_const _ none hne2 h2]
  rw [lastTzid_const _ t none hne2 (.inl rfl) h1]
  cases t <;> rfl

theorem readZone_tzid {uname : Str} (hu : passesTzid uname = true)
    (va : Option Str) (k t : Str) : readZone P uname ⟨⟨va, some k⟩, t⟩ = tzpTimezone P k := by
  simp [readZone, hu]

theorem readZone_no_tzid (uname : Str) (va : Option Str) (t : Str) :
    readZone P uname ⟨⟨va, none⟩, t⟩ = none := by
  simp [readZone]

/-- Any date-time with valid wall fields, as a property value and through `vDatetime` directly: TZID and text
    as the constructors derive them; it reads back with the same wall fields in the zone the reader resolves,
    and without one `Z` decides. -/
theorem dt_roundtrip (uname : Str) (v : ZDT Z) (hv : v.wall.valid = true) :
    dddLine P (.val (.dt v)) = ⟨⟨none, dddTzid P v⟩, dtText P v⟩ ∧
    readDdd P uname (dddLine P (.val (.dt v))) =
      .ok (.val (.dt (reread P (readZone P uname ⟨⟨none, dddTzid P v⟩, dtText P v⟩) v.wall (isUtc P v)))) ∧
    dtToIcal P v = (dtText P v, vdtTzid P v) ∧
    dtFromIcal P (dtToIcal P v).1 (dtToIcal P v).2 =
      .ok (reread P ((vdtTzid P v).bind (tzpTimezone P)) v.wall (isUtc P v)) :=
  ⟨rfl, by rw [readDdd, dddFromZ]; exact dddCoreZ_dtText P _ _ v.wall _ hv, rfl,
    by rw [dtFromIcal]; exact dtFrom_text P _ v.wall _ hv⟩

theorem readFreebusy_period (ps : DParams) (v : ZDT Z) (e : Val Z)
    (hv : v.wall.valid = true) (he : endOk e) (tz : Option Z)
    (htz : readZone P sFREEBUSY ⟨ps, itemText P (.period (.dt v) e)⟩ = tz)
    (hkind : periodKindOk (.period (.dt (reread P tz v.wall (isUtc P v))) (rereadVal P tz e) : Item Z) = true) :
    readFreebusy P ⟨ps, itemText P (.period (.dt v) e)⟩ =
      .ok [.period (.dt (reread P tz v.wall (isUtc P v))) (rereadVal P tz e)] := by
  unfold readFreebusy
  rw [htz, splitOnChar_nosep ',' _ (nocomma_period P v e hv he)]
  simp only [mapE, periodFromZ_text P tz v e hv he, hkind, if_true]

theorem localizeUtc_aware_iff (w : Wall) (z : Z) (v : ZDT Z) :
    localizeUtc P ⟨w, some z⟩ = some v ↔ ∃ w', ofSec (toSec w - P.off z w) = some w' ∧ v = ⟨w', some P.utc⟩ := by
  simp only [localizeUtc]
  cases ofSec (toSec w - P.off z w) <;> simp [eq_comm]

theorem localizeUtc_aware (w : Wall) (z : Z) (v : ZDT Z)
    (h : localizeUtc P ⟨w, some z⟩ = some v) :
    v.zone = some P.utc ∧ toSec v.wall = toSec w - P.off z w ∧ v.wall.valid = true := by
  obtain ⟨w', ho, rfl⟩ := (localizeUtc_aware_iff P w z v).1 h
  exact ⟨rfl, ofSec_spec _ _ ho⟩

theorem localizeUtc_isSome_iff (w : Wall) (z : Z) :
    (∃ v, localizeUtc P ⟨w, some z⟩ = some v) ↔ (toDays 1 1 1 * 86400 : Int) ≤ toSec w - P.off z w ∧
      toSec w - P.off z w < (toDays 10000 1 1 * 86400 : Int) := by
  rw [← ofSec_isSome_iff]
  simp only [localizeUtc_aware_iff]
  exact ⟨fun ⟨_, w', h, _⟩ => ⟨w', h⟩, fun ⟨w', h⟩ => ⟨_, w', h, rfl⟩⟩

/-! ## the demo provider

  `demo` writes its zone names as string literals, and evaluating `"…".toList` decodes UTF-8 at every use.
  Concrete values are computed after `rw [demo, Z3.name_eq]`, on the names as character lists. -/

def Z3.nameChars : Z3 → Str
  | .utc => UTC
  | .berlin => ['E', 'u', 'r', 'o', 'p', 'e', '/', 'B', 'e', 'r', 'l', 'i', 'n']
  | .newYork => ['A', 'm', 'e', 'r', 'i', 'c', 'a', '/', 'N', 'e', 'w', '_', 'Y', 'o', 'r', 'k']

theorem Z3.name_eq : Z3.name = Z3.nameChars := by
  funext z
  cases z
  · rfl
  · exact String.toList_ofList
  · exact String.toList_ofList

theorem demo_own (z : Z3) : Own demo z := by
  unfold Own
  rw [demo, Z3.name_eq]
  cases z <;> decide

theorem demo_key_ne_utc (z : Z3) (hz : z ≠ .utc) : demo.key z ≠ UTC := by
  rw [demo, Z3.name_eq]
  cases z with
  | utc => exact absurd rfl hz
  | berlin => decide
  | newYork => decide

end ICal.Zoned
