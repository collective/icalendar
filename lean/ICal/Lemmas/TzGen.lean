/-
  Lemmas for C13 (Model/TzGen), in the order of `Timezone.from_tzinfo`: the coarse-to-fine search
  under one invariant for any zone and any descending step list (`search_inv`) and its dependence on
  the zone only through the probes (`search_congr`); the outer loop for any zone (`outer_inv`,
  `outer_congr`, `fromInfo_congr`) and along a chain of visible offset changes (`Chain`,
  `outer_chain`, `chain_info`); the soundness of the applicability check on a table
  (`chainGo_sound`); the `offsets` dict as a function of the segment list (`group_spec`); the
  emission of a group; the RFC entries of the generated component and what it reads at an instant
  (`gen_reads`).
-/
import ICal.Model.TzGen
import ICal.Lemmas.Tz
namespace ICal.TzGen

/-- One `while` run with step `d`, whatever the zone does: it stops at a value whose next probe has
    another offset, or breaks on the overflow within one step of the horizon. `P` is any property
    that a probe with the old offset inherits from the probe before it. -/
theorem loop_inv (off : Int → Int) (o d H : Int) (hd : 0 < d) (P : Int → Prop)
    (hP : ∀ p, P p → p + d ≤ H → off (p + d) = o → P (p + d)) :
    ∀ (n : Nat) (e : Int), P e → e + d ≤ H → H - (e + d) < n →
      (∃ r, loop off o d H n e (e + d) = .ok r ∧ e ≤ r ∧ P r ∧ r + d ≤ H ∧ off (r + d) ≠ o) ∨
      (∃ r, loop off o d H n e (e + d) = .brk r ∧ e < r ∧ P r ∧ r ≤ H ∧ H < r + d) := by
  intro n
  induction n with
  | zero => intro e _ h1 h2; omega
  | succ k ih =>
    intro e he h1 h2
    unfold loop
    by_cases hq : off (e + d) = o
    · rw [if_pos hq]
      by_cases hov : e + d + d > H
      · rw [if_pos hov]
        exact .inr ⟨e + d, rfl, by omega, hP e he h1 hq, h1, by omega⟩
      · rw [if_neg hov]
        rcases ih (e + d) (hP e he h1 hq) (by omega) (by omega) with ⟨r, hr, hle, rest⟩ | ⟨r, hr, hlt, rest⟩
        · exact .inl ⟨r, hr, by omega, rest⟩
        · exact .inr ⟨r, hr, by omega, rest⟩
    · rw [if_neg hq]
      exact .inl ⟨e, rfl, Int.le_refl _, he, h1, hq⟩

theorem pass_inv (off : Int → Int) (o d H e : Int) (hd : 0 < d) (P : Int → Prop)
    (hP : ∀ p, P p → p + d ≤ H → off (p + d) = o → P (p + d)) (he : P e) :
    (pass off o d H e = .raise ∧ H < e + d) ∨
    (∃ r, pass off o d H e = .ok r ∧ e ≤ r ∧ P r ∧ r + d ≤ H ∧ off (r + d) ≠ o) ∨
    (∃ r, pass off o d H e = .brk r ∧ e < r ∧ P r ∧ r ≤ H ∧ H < r + d) := by
  unfold pass
  by_cases h1 : e + d > H
  · rw [if_pos h1]; exact .inl ⟨rfl, h1⟩
  · rw [if_neg h1]
    have hfuel := Int.self_le_toNat (H - e)
    exact .inr (loop_inv off o d H hd P hP _ e he (Int.not_lt.mp h1) (by rw [Int.natCast_add]; omega))

/-- All rounds, whatever the zone does, for descending positive steps: the first probe overflows
    and the search raises; or it ends at a value whose successor by the last step has another offset;
    or it breaks on the overflow within one step of the horizon. -/
theorem search_inv (off : Int → Int) (o H : Int) (P : Int → Prop) :
    ∀ (ds : List Int) (e : Int), ds.Pairwise (· ≥ ·) → (∀ d ∈ ds, 0 < d) →
      (∀ d ∈ ds, ∀ p, P p → p + d ≤ H → off (p + d) = o → P (p + d)) → P e →
      (search off o H ds e = .raise ∧ ∃ d ∈ ds, H < e + d) ∨
      (∃ r, search off o H ds e = .ok r ∧ e ≤ r ∧ P r ∧ ∀ d ∈ ds.getLast?, r + d ≤ H ∧ off (r + d) ≠ o) ∨
      (∃ r, search off o H ds e = .brk r ∧ e ≤ r ∧ P r ∧ ∃ d ∈ ds, H < r + d) := by
  intro ds
  induction ds with
  | nil => intro e _ _ _ he; exact .inr (.inl ⟨e, rfl, Int.le_refl _, he, by simp⟩)
  | cons d ds ih =>
    intro e hdesc hpos hP he
    rw [List.pairwise_cons] at hdesc
    unfold search
    rcases pass_inv off o d H e (hpos d (by simp)) P (hP d (by simp)) he with
      ⟨hp, hover⟩ | ⟨r1, hp, her1, hPr1, hfits, hchange⟩ | ⟨r1, hp, her1, hPr1, _, hover⟩
    · rw [hp]; exact .inl ⟨rfl, d, by simp, hover⟩
    · rw [hp]
      rcases ih r1 hdesc.2 (fun x hx => hpos x (by simp [hx])) (fun x hx => hP x (by simp [hx])) hPr1 with
        ⟨_, d', hd', hover'⟩ | ⟨r, hr, hr1r, hPr, hlast⟩ | ⟨r, hr, hr1r, hPr, d', hd', hover'⟩
      · -- the only use of the descending order: `r1 + d` fits under `H`, so the finer rounds,
        -- whose steps are at most `d`, cannot raise on their first probe
        have hd'd : d ≥ d' := hdesc.1 d' hd'
        omega
      · refine .inr (.inl ⟨r, hr, by omega, hPr, ?_⟩)
        cases ds with
        | nil => cases hr; intro d' hd'; cases hd'; exact ⟨hfits, hchange⟩
        | cons x xs => exact hlast
      · exact .inr (.inr ⟨r, hr, by omega, hPr, d', by simp [hd'], hover'⟩)
    · rw [hp]; exact .inr (.inr ⟨r1, rfl, by omega, hPr1, d, by simp, hover⟩)

theorem search_ge {off : Int → Int} {o H : Int} {ds : List Int} (hdesc : ds.Pairwise (· ≥ ·))
    (hpos : ∀ d ∈ ds, 0 < d) {e r : Int} (h : search off o H ds e = .ok r ∨ search off o H ds e = .brk r) :
    e ≤ r := by
  rcases search_inv off o H (fun _ => True) ds e hdesc hpos (fun _ _ _ _ _ _ => trivial) trivial with
    ⟨h', _⟩ | ⟨r', h', her, _⟩ | ⟨r', h', her, _⟩ <;> rw [h'] at h
  · rcases h with h | h <;> cases h
  · rcases h with h | h <;> cases h; exact her
  · rcases h with h | h <;> cases h; exact her

theorem search_next {off : Int → Int} {o s T D H : Int} {ds : List Int} (hdesc : ds.Pairwise (· ≥ ·))
    (hds : ∀ d ∈ ds, 0 < d ∧ d ≤ D) (hlast : ds.getLast? = some 1) (hsT : s < T)
    (hB : ∀ t, s ≤ t → t < T → off t = o) (hA : ∀ t, T ≤ t → t < T + D → off t ≠ o) (hH : T + D ≤ H) :
    search off o H ds s = .ok (T - 1) := by
  -- a probe with offset `o` that starts left of `T` cannot land in `[T, T + D)`, nor jump over it
  have hP : ∀ d ∈ ds, ∀ p, (s ≤ p ∧ p < T) → p + d ≤ H → off (p + d) = o → s ≤ p + d ∧ p + d < T := by
    intro d hd p hp _ hq
    have := hds d hd
    refine ⟨by omega, ?_⟩
    by_cases h : p + d < T
    · exact h
    · exact absurd hq (hA (p + d) (by omega) (by omega))
  rcases search_inv off o H (fun p => s ≤ p ∧ p < T) ds s hdesc (fun d hd => (hds d hd).1) hP
      ⟨Int.le_refl _, hsT⟩ with ⟨_, d, hd, hover⟩ | ⟨r, hr, _, hrT, hstop⟩ | ⟨r, _, _, hrT, d, hd, hover⟩
  · have := hds d hd; omega
  · obtain ⟨_, hne⟩ := hstop 1 (by rw [hlast]; rfl)
    have : ¬ r + 1 < T := fun h => hne (hB (r + 1) (by omega) h)
    rw [hr, show r = T - 1 by omega]
  · have := hds d hd; omega

theorem skipSearch_steps : ∀ d ∈ skipSearch, 0 < d ∧ d ≤ maxStep := by decide
theorem skipSearch_last : skipSearch.getLast? = some 1 := by decide
theorem skipSearch_desc : skipSearch.Pairwise (· ≥ ·) := by decide
theorem maxStep_pos : 0 < maxStep := by decide

theorem skipSearch_pos : ∀ d ∈ skipSearch, 0 < d := fun d hd => (skipSearch_steps d hd).1

theorem search_flat {off : Int → Int} {o H s last : Int} (hH : last + maxStep ≤ H) (hs : s < last)
    (hc : ∀ t, s ≤ t → t < last → off t = o) :
    ∃ e, (search off o H skipSearch s = .ok e ∨ search off o H skipSearch s = .brk e) ∧ last ≤ e + 1 := by
  rcases search_inv off o H (fun _ => True) skipSearch s skipSearch_desc skipSearch_pos
      (fun _ _ _ _ _ _ => trivial) trivial with ⟨_, d, hd, hover⟩ | ⟨r, hr, hsr, _, hstop⟩ | ⟨r, hr, hsr, _, d, hd, hover⟩
  · have := (skipSearch_steps d hd).2; omega
  · obtain ⟨_, hne⟩ := hstop 1 (by rw [skipSearch_last]; rfl)
    refine ⟨r, .inl hr, ?_⟩
    have : ¬ r + 1 < last := fun h => hne (hc (r + 1) (by omega) h)
    omega
  · have := (skipSearch_steps d hd).2
    exact ⟨r, .inr hr, by omega⟩

theorem Pass.cases (p : Pass) : p = .raise ∨ ∃ e, p = .ok e ∨ p = .brk e := by
  cases p <;> simp

theorem loop_congr {off off' : Int → Int} {o d H lo : Int} (hd : 0 < d)
    (hag : ∀ x, lo ≤ x → x ≤ H → off x = off' x) :
    ∀ (n : Nat) (e p : Int), lo ≤ p → p ≤ H → loop off o d H n e p = loop off' o d H n e p := by
  intro n
  induction n with
  | zero => intro e p _ _; rfl
  | succ k ih =>
    intro e p h1 h2
    unfold loop
    rw [hag p h1 h2]
    split
    · split
      · rfl
      · exact ih p (p + d) (by omega) (by omega)
    · rfl

theorem pass_congr {off off' : Int → Int} {o d H lo e : Int} (hd : 0 < d)
    (hag : ∀ x, lo ≤ x → x ≤ H → off x = off' x) (he : lo ≤ e) :
    pass off o d H e = pass off' o d H e := by
  unfold pass
  split
  · rfl
  · exact loop_congr hd hag _ e (e + d) (by omega) (by omega)

theorem search_congr {off off' : Int → Int} {o H lo : Int}
    (hag : ∀ x, lo ≤ x → x ≤ H → off x = off' x) :
    ∀ (ds : List Int), (∀ d ∈ ds, 0 < d) → ∀ e, lo ≤ e → search off o H ds e = search off' o H ds e := by
  intro ds
  induction ds with
  | nil => intro _ e _; rfl
  | cons d ds ih =>
    intro hds e he
    have hd := hds d (by simp)
    simp only [search]
    rw [← pass_congr (o := o) hd hag he]
    rcases pass_inv off o d H e hd (fun _ => True) (fun _ _ _ _ => trivial) trivial with
      ⟨hp, _⟩ | ⟨r, hp, h1, _⟩ | ⟨r, hp, _⟩ <;> rw [hp]
    exact ih (fun x hx => hds x (by simp [hx])) r (by omega)

variable {info : Int → Info} {wallOf : Int → Int} {H last : Int}

theorem outer_stop {ds : List Int} {n : Nat} {s : Int} {prev : Option Int} (hs : ¬ s < last) :
    outer info wallOf ds H last n s prev = some [] := by
  cases n with
  | zero => rfl
  | succ n => simp only [outer, hs, if_false]

theorem outer_step {ds : List Int} {n : Nat} {s : Int} {prev : Option Int} {e : Int} (hs : s < last)
    (he : search (fun x => (info x).off) (info s).off H ds s = .ok e ∨
      search (fun x => (info x).off) (info s).off H ds s = .brk e) :
    outer info wallOf ds H last (n + 1) s prev =
      (outer info wallOf ds H last n (e + 1) (some (info s).off)).map
        (⟨prev, (info s).off, (info s).name, (info s).isStd, s, wallOf s⟩ :: ·) := by
  rcases he with he | he <;> simp only [outer, hs, if_true, he]

theorem outer_succ {n : Nat} {start : Int} {prev : Option Int} {segs : List Seg}
    (h : outer info wallOf skipSearch H last (n + 1) start prev = some segs) :
    (¬ start < last ∧ segs = []) ∨
    (start < last ∧ ∃ e tl, start ≤ e ∧
      outer info wallOf skipSearch H last n (e + 1) (some (info start).off) = some tl ∧
      segs = ⟨prev, (info start).off, (info start).name, (info start).isStd, start, wallOf start⟩ :: tl) := by
  by_cases hs : start < last
  · rcases Pass.cases (search (fun x => (info x).off) (info start).off H skipSearch start) with hr | ⟨e, he⟩
    · simp [outer, hs, hr] at h
    rw [outer_step hs he] at h
    obtain ⟨tl, htl, rfl⟩ := Option.map_eq_some_iff.mp h
    exact .inr ⟨hs, e, tl, search_ge skipSearch_desc skipSearch_pos he, htl, rfl⟩
  · rw [outer_stop hs] at h
    cases h
    exact .inl ⟨hs, rfl⟩

def SegOK (info : Int → Info) (wallOf : Int → Int) (g : Seg) : Prop :=
  g.offTo = (info g.start).off ∧ g.name = (info g.start).name ∧ g.isStd = (info g.start).isStd ∧
  g.wall = wallOf g.start

/-- the segment list of any zone: starts inside the window and strictly ascending, data of the zone
    at the start, TZOFFSETFROM `prev` for the first and some offset for all later ones -/
theorem outer_inv : ∀ {n : Nat} {start : Int} {prev : Option Int} {segs : List Seg},
      outer info wallOf skipSearch H last n start prev = some segs →
      (∀ g ∈ segs, start ≤ g.start ∧ g.start < last ∧ SegOK info wallOf g) ∧
      segs.Pairwise (fun a b => a.start < b.start) ∧
      (∀ s tl, segs = s :: tl → s.offFrom = prev ∧ ∀ g ∈ tl, g.offFrom.isSome = true) := by
  intro n
  induction n with
  | zero =>
    intro start prev segs h
    cases h
    exact ⟨by simp, List.Pairwise.nil, by intro s tl h; cases h⟩
  | succ n ih =>
    intro start prev segs h
    rcases outer_succ h with ⟨_, rfl⟩ | ⟨hs, e, tl, hse, hr, rfl⟩
    · exact ⟨by simp, List.Pairwise.nil, by intro s tl h; cases h⟩
    · obtain ⟨i1, i2, i3⟩ := ih hr
      refine ⟨?_, ?_, ?_⟩
      · intro g hg
        rcases List.mem_cons.mp hg with rfl | hg
        · exact ⟨Int.le_refl _, hs, rfl, rfl, rfl, rfl⟩
        · have := i1 g hg
          exact ⟨by omega, this.2.1, this.2.2⟩
      · refine List.Pairwise.cons ?_ i2
        intro g hg
        have := (i1 g hg).1
        simp only; omega
      · intro s tl' heq
        simp only [List.cons.injEq] at heq
        obtain ⟨rfl, rfl⟩ := heq
        refine ⟨rfl, ?_⟩
        intro g hg
        cases tl with
        | nil => cases hg
        | cons s' tl'' =>
          obtain ⟨j1, j3⟩ := i3 s' tl'' rfl
          rcases List.mem_cons.mp hg with rfl | hg
          · rw [j1]; rfl
          · exact j3 g hg

/-- `from_tzinfo` reads the zone only at clock values of `[start, H]` -/
theorem outer_congr {info info' : Int → Info} {wallOf wallOf' : Int → Int} {H last lo : Int}
    (hag : ∀ x, lo ≤ x → x ≤ H → info x = info' x) (hw : ∀ x, lo ≤ x → x < last → wallOf x = wallOf' x)
    (hlast : last ≤ H + 1) :
    ∀ (n : Nat) (start : Int) (prev : Option Int), lo ≤ start →
      outer info wallOf skipSearch H last n start prev = outer info' wallOf' skipSearch H last n start prev := by
  intro n
  induction n with
  | zero => intro start prev _; rfl
  | succ n ih =>
    intro start prev hlo
    by_cases hs : start < last
    · have hi : info start = info' start := hag start hlo (by omega)
      have hsearch : search (fun x => (info' x).off) (info' start).off H skipSearch start =
          search (fun x => (info x).off) (info start).off H skipSearch start := by
        rw [← hi]
        exact (search_congr (fun x h1 h2 => congrArg Info.off (hag x h1 h2)) skipSearch skipSearch_pos start hlo).symm
      rcases Pass.cases (search (fun x => (info x).off) (info start).off H skipSearch start) with hr | ⟨e, he⟩
      · simp only [outer, hs, if_true, hsearch, hr]
      · have := search_ge skipSearch_desc skipSearch_pos he
        rw [outer_step hs he, outer_step hs (he.imp hsearch.trans hsearch.trans), ih _ _ (by omega), ← hi,
          ← hw start hlo hs]
    · rw [outer_stop hs, outer_stop hs]

theorem fromInfo_some {info : Int → Info} {wallOf : Int → Int} {H first last lastWall : Int} {gen : List GenObs}
    (hgen : fromInfo info wallOf H first last lastWall = some gen) :
    ∃ segs, outer info wallOf skipSearch H last ((last - first).toNat + 1) first none = some segs ∧
      gen = (group segs).map (emit lastWall) := by
  obtain ⟨segs, hs, hg⟩ := Option.map_eq_some_iff.mp hgen
  exact ⟨segs, hs, hg.symm⟩

theorem fromInfo_congr {info info' : Int → Info} {wallOf wallOf' : Int → Int} {H first last : Int} (lastWall : Int)
    (hag : ∀ x, first ≤ x → x ≤ H → info x = info' x) (hw : ∀ x, first ≤ x → x < last → wallOf x = wallOf' x)
    (hlast : last ≤ H + 1) :
    fromInfo info wallOf H first last lastWall = fromInfo info' wallOf' H first last lastWall := by
  unfold fromInfo
  rw [outer_congr hag hw hlast _ first none (Int.le_refl _)]

/-- `Ts` are the points at which the zone changes, from `s` on, as far as the loop needs them:
    between two points everything (offset, name, dst flag) is constant, every change is a change of
    the *offset*, and the old offset does not come back within the coarsest step.
    The chain may end once `last ≤ s`, when the zone is constant up to the horizon, or when it is
    constant up to some point at or after `last` (what happens there does not matter). -/
inductive Chain (info : Int → Info) (H last : Int) : Int → List Int → Prop where
  | stop {s : Int} : last ≤ s → Chain info H last s []
  | const {s : Int} : (∀ t, s ≤ t → t ≤ H → info t = info s) → Chain info H last s []
  | tail {s T : Int} : last ≤ T → (∀ t, s ≤ t → t < T → info t = info s) → Chain info H last s []
  | step {s T : Int} {rest : List Int} : s < T → (∀ t, s ≤ t → t < T → info t = info s) →
      (∀ t, T ≤ t → t < T + maxStep → (info t).off ≠ (info s).off) → T + maxStep ≤ H →
      Chain info H last T rest → Chain info H last s (T :: rest)

/-- the segments the outer loop must produce along a chain -/
def segsOf (info : Int → Info) (wallOf : Int → Int) (last : Int) : Option Int → Int → List Int → List Seg
  | prev, s, [] =>
    if s < last then [⟨prev, (info s).off, (info s).name, (info s).isStd, s, wallOf s⟩] else []
  | prev, s, T :: rest =>
    if s < last then
      ⟨prev, (info s).off, (info s).name, (info s).isStd, s, wallOf s⟩ :: segsOf info wallOf last (some (info s).off) T rest
    else []

theorem segsOf_stop {s : Int} (hs : ¬ s < last) (prev : Option Int) (Ts : List Int) :
    segsOf info wallOf last prev s Ts = [] := by
  cases Ts <;> simp only [segsOf, hs, if_false]

theorem Chain.flat {s : Int} (hc : Chain info H last s []) (hH : last ≤ H + 1) :
    ∀ t, s ≤ t → t < last → info t = info s := by
  intro t h1 h2
  cases hc with
  | stop h => omega
  | const h => exact h t h1 (by omega)
  | tail hT h => exact h t h1 (by omega)

theorem Chain.lt {s : Int} {Ts : List Int} (hc : Chain info H last s Ts) :
    ∀ T ∈ Ts, s < T := by
  induction hc with
  | stop _ => intro T hT; cases hT
  | const _ => intro T hT; cases hT
  | tail _ _ => intro T hT; cases hT
  | step hsT _ _ _ _ ih =>
    intro x hx
    rcases List.mem_cons.mp hx with rfl | hx
    · exact hsT
    · exact Int.lt_trans hsT (ih x hx)

theorem outer_chain (hH : last + maxStep ≤ H) :
    ∀ {Ts : List Int} {s : Int}, Chain info H last s Ts → ∀ {n : Nat} {prev : Option Int}, last - s < n →
      outer info wallOf skipSearch H last n s prev = some (segsOf info wallOf last prev s Ts) := by
  have hpos := maxStep_pos
  intro Ts
  induction Ts with
  | nil =>
    intro s hc n prev hn
    by_cases hs : s < last
    · obtain ⟨n, rfl⟩ := Nat.exists_eq_succ_of_ne_zero (show n ≠ 0 by omega)
      obtain ⟨e, he, hle⟩ := search_flat (off := fun x => (info x).off) hH hs
        (fun t h1 h2 => congrArg Info.off (hc.flat (by omega) t h1 h2))
      rw [outer_step hs he, outer_stop (s := e + 1) (by omega)]
      simp only [segsOf, hs, if_true]
      rfl
    · rw [outer_stop hs, segsOf_stop hs]
  | cons T rest ih =>
    intro s hc n prev hn
    cases hc with
    | step hsT hB hA hTH hrest =>
      by_cases hs : s < last
      · obtain ⟨n, rfl⟩ := Nat.exists_eq_succ_of_ne_zero (show n ≠ 0 by omega)
        have he := search_next (off := fun x => (info x).off) skipSearch_desc skipSearch_steps skipSearch_last hsT
          (fun t h1 h2 => congrArg Info.off (hB t h1 h2)) hA hTH
        rw [outer_step hs (.inl he), show T - 1 + 1 = T by omega, ih hrest (by omega)]
        simp only [segsOf, hs, if_true]
        rfl
      · rw [outer_stop hs, segsOf_stop hs]

theorem outer_chain_window (hH : last + maxStep ≤ H) {Ts : List Int} {s : Int} {prev : Option Int}
    (hc : Chain info H last s Ts) :
    outer info wallOf skipSearch H last ((last - s).toNat + 1) s prev = some (segsOf info wallOf last prev s Ts) :=
  outer_chain hH hc (by omega)

/-- along a chain the loop's result is `segsOf`, so what holds of every result holds of it -/
theorem segsOf_inv (hH : last + maxStep ≤ H) {Ts : List Int} {s : Int} {prev : Option Int}
    (hc : Chain info H last s Ts) :
    ∀ g ∈ segsOf info wallOf last prev s Ts, s ≤ g.start ∧ g.start < last ∧ SegOK info wallOf g :=
  (outer_inv (outer_chain_window hH hc)).1

theorem segsOf_ok {Ts : List Int} {s : Int} {prev : Option Int} {g : Seg}
    (hg : g ∈ segsOf info wallOf last prev s Ts) : SegOK info wallOf g := by
  induction Ts generalizing s prev with
  | nil =>
    unfold segsOf at hg
    split at hg
    · simp at hg; subst hg; exact ⟨rfl, rfl, rfl, rfl⟩
    · simp at hg
  | cons T rest ih =>
    unfold segsOf at hg
    split at hg
    · rcases List.mem_cons.mp hg with rfl | hg
      · exact ⟨rfl, rfl, rfl, rfl⟩
      · exact ih hg
    · simp at hg

theorem segsOf_length {info : Int → Info} {wallOf : Int → Int} {H last : Int} :
    ∀ {Ts : List Int} {s : Int} {prev : Option Int}, Chain info H last s Ts → s < last →
      (segsOf info wallOf last prev s Ts).length = 1 + (Ts.filter fun T => decide (T < last)).length := by
  intro Ts
  induction Ts with
  | nil => intro s prev _ hs; simp [segsOf, hs]
  | cons T rest ih =>
    intro s prev hc hs
    cases hc with
    | step hsT hB hA hTH hrest =>
      simp only [segsOf, hs, if_true, List.length_cons]
      by_cases hT : T < last
      · rw [ih hrest hT]
        simp [hT]; omega
      · have hf : (List.filter (fun T => decide (T < last)) (T :: rest)) = [] := by
          rw [List.filter_eq_nil_iff]
          intro x hx
          rcases List.mem_cons.mp hx with rfl | hx
          · simpa using hT
          · simpa using Int.le_trans (Int.not_lt.mp hT) (Int.le_of_lt (hrest.lt x hx))
        rw [hf, segsOf_stop hT]
        rfl

theorem chain_info (wallOf : Int → Int) (hH : last + maxStep ≤ H) :
    ∀ {Ts : List Int} {s : Int} (prev : Option Int), Chain info H last s Ts →
      ∀ t, s ≤ t → t < last →
        ∃ g ∈ segsOf info wallOf last prev s Ts, g.start ≤ t ∧ info t = info g.start ∧
          ∀ g' ∈ segsOf info wallOf last prev s Ts, g'.start ≤ t → g'.start ≤ g.start := by
  intro Ts
  induction Ts with
  | nil =>
    intro s prev hc t h1 h2
    have hs : s < last := by omega
    simp only [segsOf, hs, if_true]
    exact ⟨_, List.mem_cons_self, h1, hc.flat (by have := maxStep_pos; omega) t h1 h2,
      List.forall_mem_singleton.mpr fun _ => Int.le_refl _⟩
  | cons T rest ih =>
    intro s prev hc t h1 h2
    have hs : s < last := by omega
    cases hc with
    | step hsT hB hA hTH hrest =>
      have hge := segsOf_inv (wallOf := wallOf) (prev := some (info s).off) hH hrest
      simp only [segsOf, hs, if_true]
      by_cases htT : t < T
      · refine ⟨_, List.mem_cons_self, h1, hB t h1 htT, List.forall_mem_cons.mpr ⟨fun _ => Int.le_refl _, ?_⟩⟩
        intro g' hg' hle
        have := (hge g' hg').1
        omega
      · obtain ⟨g, hg, hgt, hgi, hmax⟩ := ih (some (info s).off) hrest t (by omega) h2
        refine ⟨g, List.mem_cons_of_mem _ hg, hgt, hgi, List.forall_mem_cons.mpr ⟨fun _ => ?_, hmax⟩⟩
        have := (hge g hg).1
        simp only; omega

theorem infoAt_lt {cur : Info} {r : Row} {rs : List Row} {x : Int} (h : x < r.pos) :
    infoAt cur (r :: rs) x = cur := by
  have : ¬ r.pos ≤ x := by omega
  simp [infoAt, this]

theorem infoAt_ge {cur : Info} {r : Row} {rs : List Row} {x : Int} (h : r.pos ≤ x) :
    infoAt cur (r :: rs) x = infoAt r.info rs x := by
  simp [infoAt, h]

theorem infoAt_head_gt {cur : Info} {rows : List Row} {x : Int} (h : ∀ r ∈ rows.head?, x < r.pos) :
    infoAt cur rows x = cur := by
  cases rows with
  | nil => rfl
  | cons r rs => exact infoAt_lt (h r (by simp))

theorem infoAt_mem : ∀ (rows : List Row) (cur : Info) (x : Int),
    infoAt cur rows x = cur ∨ ∃ r ∈ rows, r.pos ≤ x ∧ infoAt cur rows x = r.info := by
  intro rows
  induction rows with
  | nil => intro cur x; left; rfl
  | cons r rs ih =>
    intro cur x
    by_cases h : r.pos ≤ x
    · rw [infoAt_ge h]
      rcases ih r.info x with h1 | ⟨r', hr', h2, h3⟩
      · right; exact ⟨r, by simp, h, h1⟩
      · right; exact ⟨r', by simp [hr'], h2, h3⟩
    · left; exact infoAt_lt (by omega)

theorem sortedRows_cons {r : Row} {rs : List Row} (h : sortedRows (r :: rs) = true) :
    sortedRows rs = true ∧ ∀ r' ∈ rs.head?, r.pos < r'.pos := by
  cases rs with
  | nil => simp [sortedRows]
  | cons b t =>
    simp only [sortedRows, Bool.and_eq_true, decide_eq_true_eq] at h
    exact ⟨h.2, by intro r' hr'; simp at hr'; subst hr'; exact h.1⟩

theorem persists_spec {cur : Info} {rs : List Row} {o upto : Int} (hcur : cur.off ≠ o)
    (h : persists rs o upto = true) (t : Int) (ht : t < upto) : (infoAt cur rs t).off ≠ o := by
  rcases infoAt_mem rs cur t with e | ⟨r', hr', hp, e⟩
  · rw [e]; exact hcur
  · rw [e]
    unfold persists at h
    have := List.all_eq_true.mp h r' hr'
    simp only [Bool.or_eq_true, Bool.not_eq_true', decide_eq_false_iff_not, bne_iff_ne, ne_eq] at this
    rcases this with h3 | h3
    · omega
    · exact h3

/-- What `chainGo` accepts has a chain. From `s` on the zone is the rest of the table read with
    `prev` in force; `s` is the window start (rows at or before it are still to be skipped) or a
    row already passed. -/
theorem chainGo_sound (info : Int → Info) (H first last : Int) (hH : last + maxStep ≤ H) :
    ∀ (rows : List Row) (prev : Info) (s : Int), first ≤ s → sortedRows rows = true →
      (s = first ∨ ∀ r ∈ rows.head?, s < r.pos) → (∀ x, s ≤ x → info x = infoAt prev rows x) →
      chainGo first last prev rows = true → ∃ Ts, Chain info H last s Ts := by
  intro rows
  induction rows with
  | nil =>
    intro prev s _ _ _ hinfo _
    exact ⟨[], Chain.const (fun t h1 _ => by rw [hinfo t h1, hinfo s (Int.le_refl _)]; rfl)⟩
  | cons r rs ih =>
    intro prev s hfs hsorted hhead hinfo hgo
    obtain ⟨hsrs, hheadrs⟩ := sortedRows_cons hsorted
    unfold chainGo at hgo
    by_cases hrf : r.pos ≤ first
    · rw [if_pos hrf] at hgo
      have hs : s = first := by
        rcases hhead with h | h
        · exact h
        · have := h r (by simp); omega
      exact ih r.info s hfs hsrs (.inl hs)
        (fun x hx => by rw [hinfo x hx, infoAt_ge (Int.le_trans (Int.le_trans hrf hfs) hx)]) hgo
    rw [if_neg hrf] at hgo
    have hsr : s < r.pos := by
      rcases hhead with h | h
      · omega
      · exact h r (by simp)
    have hs : info s = prev := by rw [hinfo s (Int.le_refl _)]; exact infoAt_lt hsr
    have hconst : ∀ t, s ≤ t → t < r.pos → info t = info s := by
      intro t h1 h2; rw [hinfo t h1, infoAt_lt h2, hs]
    by_cases hl : last ≤ r.pos
    · exact ⟨[], Chain.tail hl hconst⟩
    · simp only [hl, if_false] at hgo
      by_cases heq : r.info = prev
      · simp only [heq, if_true] at hgo
        apply ih prev s hfs hsrs (.inr fun r' hr' => Int.lt_trans hsr (hheadrs r' hr')) ?_ hgo
        intro x hx
        rw [hinfo x hx]
        by_cases hrx : r.pos ≤ x
        · rw [infoAt_ge hrx, heq]
        · rw [infoAt_lt (Int.not_le.mp hrx)]
          exact (infoAt_head_gt (fun r' hr' => Int.lt_trans (Int.not_le.mp hrx) (hheadrs r' hr'))).symm
      · simp only [heq, if_false, Bool.and_eq_true, bne_iff_ne, ne_eq] at hgo
        obtain ⟨⟨hoff, hpers⟩, hrest⟩ := hgo
        have hinfo' : ∀ x, r.pos ≤ x → info x = infoAt r.info rs x := by
          intro x hx; rw [hinfo x (Int.le_trans (Int.le_of_lt hsr) hx), infoAt_ge hx]
        obtain ⟨Ts, hTs⟩ := ih r.info r.pos (Int.le_trans hfs (Int.le_of_lt hsr)) hsrs (.inr hheadrs) hinfo' hrest
        refine ⟨r.pos :: Ts, Chain.step hsr hconst ?_ (by omega) hTs⟩
        intro t h1 h2
        rw [hs, hinfo' t h1]
        exact persists_spec hoff hpers t h2

def lookupK : List (Key × List Int) → Key → Option (List Int)
  | [], _ => none
  | (k', ws) :: r, k => if k' = k then some ws else lookupK r k

def walls (segs : List Seg) (k : Key) : List Int := (segs.filter fun s => decide (s.key = k)).map (·.wall)

theorem lookupK_addSeg : ∀ (g : List (Key × List Int)) (k : Key) (w : Int) (k' : Key),
    lookupK (addSeg g k w) k' = if k = k' then some ((lookupK g k).getD [] ++ [w]) else lookupK g k' := by
  intro g
  induction g with
  | nil => intro k w k'; by_cases h : k = k' <;> simp [addSeg, lookupK, h]
  | cons a r ih =>
    intro k w k'
    obtain ⟨k0, ws0⟩ := a
    by_cases h0 : k0 = k
    · subst h0
      by_cases h : k0 = k' <;> simp [addSeg, lookupK, h]
    · by_cases h : k = k'
      · subst h
        simp [addSeg, lookupK, h0, ih]
      · by_cases h1 : k0 = k'
        · subst h1; simp [addSeg, lookupK, h0, h]
        · simp [addSeg, lookupK, h0, h, h1, ih]

theorem walls_cons (s : Seg) (r : List Seg) (k : Key) :
    walls (s :: r) k = if s.key = k then s.wall :: walls r k else walls r k := by
  unfold walls
  by_cases h : s.key = k <;> simp [h]

theorem group_lookup : ∀ (segs : List Seg) (g : List (Key × List Int)) (k : Key),
    lookupK (segs.foldl (fun g s => addSeg g s.key s.wall) g) k =
      if walls segs k = [] then lookupK g k else some ((lookupK g k).getD [] ++ walls segs k) := by
  intro segs
  induction segs with
  | nil => intro g k; simp [walls]
  | cons s r ih =>
    intro g k
    simp only [List.foldl_cons]
    rw [ih, lookupK_addSeg, walls_cons]
    by_cases h : s.key = k
    · subst h
      by_cases h2 : walls r s.key = [] <;> simp [h2]
    · simp [h]

theorem mem_of_lookupK : ∀ (g : List (Key × List Int)) (k : Key) (ws : List Int),
    lookupK g k = some ws → (k, ws) ∈ g := by
  intro g
  induction g with
  | nil => intro k ws h; cases h
  | cons a r ih =>
    intro k ws h
    obtain ⟨k0, ws0⟩ := a
    unfold lookupK at h
    split at h
    · next hk => simp only [Option.some.injEq] at h; subst hk; subst h; simp
    · exact List.mem_cons_of_mem _ (ih k ws h)

theorem lookupK_of_mem : ∀ (g : List (Key × List Int)), (g.map (·.1)).Nodup → ∀ (k : Key) (ws : List Int),
    (k, ws) ∈ g → lookupK g k = some ws := by
  intro g
  induction g with
  | nil => intro _ k ws h; cases h
  | cons a r ih =>
    intro hnd k ws h
    obtain ⟨k0, ws0⟩ := a
    simp only [List.map_cons, List.nodup_cons] at hnd
    rcases List.mem_cons.mp h with heq | h
    · simp only [Prod.mk.injEq] at heq
      obtain ⟨rfl, rfl⟩ := heq
      simp [lookupK]
    · have hne : k0 ≠ k := by
        intro e; subst e
        exact hnd.1 (List.mem_map.mpr ⟨(k0, ws), h, rfl⟩)
      simp only [lookupK, hne, if_false]
      exact ih hnd.2 k ws h

theorem keys_addSeg : ∀ (g : List (Key × List Int)) (k : Key) (w : Int),
    (addSeg g k w).map (·.1) = if k ∈ g.map (·.1) then g.map (·.1) else g.map (·.1) ++ [k] := by
  intro g
  induction g with
  | nil => intro k w; simp [addSeg]
  | cons a r ih =>
    intro k w
    obtain ⟨k0, ws0⟩ := a
    by_cases h0 : k0 = k
    · subst h0; simp [addSeg]
    · have h0' : ¬ k = k0 := fun e => h0 e.symm
      simp only [addSeg, h0, if_false, List.map_cons, ih, List.mem_cons, h0', false_or]
      split <;> simp

theorem nodup_keys_addSeg (g : List (Key × List Int)) (k : Key) (w : Int) (h : (g.map (·.1)).Nodup) :
    ((addSeg g k w).map (·.1)).Nodup := by
  rw [keys_addSeg]
  split
  · exact h
  · next hk =>
    refine List.nodup_append.mpr ⟨h, by simp, fun a ha b hb e => hk ?_⟩
    rwa [← List.mem_singleton.mp hb, ← e]

theorem nodup_keys_foldl : ∀ (segs : List Seg) (g : List (Key × List Int)), (g.map (·.1)).Nodup →
    ((segs.foldl (fun g s => addSeg g s.key s.wall) g).map (·.1)).Nodup := by
  intro segs
  induction segs with
  | nil => intro g h; exact h
  | cons s r ih => intro g h; exact ih _ (nodup_keys_addSeg g s.key s.wall h)

theorem mem_walls {segs : List Seg} {k : Key} {x : Int} :
    x ∈ walls segs k ↔ ∃ s ∈ segs, s.key = k ∧ s.wall = x := by
  simp only [walls, List.mem_map, List.mem_filter, decide_eq_true_eq, and_assoc]

theorem group_spec (segs : List Seg) :
    ((group segs).map (·.1)).Nodup ∧
    (∀ q ∈ group segs, q.2 = walls segs q.1 ∧ q.2 ≠ []) ∧
    (∀ s ∈ segs, (s.key, walls segs s.key) ∈ group segs) := by
  have hnd : ((group segs).map (·.1)).Nodup := nodup_keys_foldl segs [] (by simp)
  have hl : ∀ k, lookupK (group segs) k = if walls segs k = [] then none else some (walls segs k) := by
    intro k
    have := group_lookup segs [] k
    simpa [lookupK, group] using this
  refine ⟨hnd, ?_, ?_⟩
  · intro q hq
    have h1 := lookupK_of_mem (group segs) hnd q.1 q.2 hq
    rw [hl] at h1
    split at h1
    · cases h1
    · next hne => simp only [Option.some.injEq] at h1; rw [← h1]; exact ⟨rfl, hne⟩
  · intro s hs
    apply mem_of_lookupK
    rw [hl]
    have hne : walls segs s.key ≠ [] := List.ne_nil_of_mem (mem_walls.mpr ⟨s, hs, rfl, rfl⟩)
    simp [hne]

theorem group_mem (segs : List Seg) : ∀ q ∈ group segs,
    q.2 ≠ [] ∧ ∀ x ∈ q.2, ∃ s ∈ segs, s.key = q.1 ∧ s.wall = x := by
  intro q hq
  obtain ⟨hw, hne⟩ := (group_spec segs).2.1 q hq
  exact ⟨hne, fun x hx => mem_walls.mp (hw ▸ hx)⟩

theorem group_cons_fresh (s : Seg) (tl : List Seg) (hk : ∀ g ∈ tl, g.key ≠ s.key) :
    group (s :: tl) = (s.key, [s.wall]) :: group tl := by
  have hgrp : ∀ (l : List Seg) (g : List (Key × List Int)), (∀ s' ∈ l, s'.key ≠ s.key) →
      l.foldl (fun g s => addSeg g s.key s.wall) ((s.key, [s.wall]) :: g) =
        (s.key, [s.wall]) :: l.foldl (fun g s => addSeg g s.key s.wall) g := by
    intro l
    induction l with
    | nil => intro g _; rfl
    | cons a r ih =>
      intro g hk
      have hne : ¬ s.key = a.key := fun e => hk a (by simp) e.symm
      simp only [List.foldl_cons, addSeg, hne, if_false]
      exact ih _ (fun s' hs' => hk s' (List.mem_cons_of_mem _ hs'))
  exact hgrp tl [] hk

theorem sumLen_addSeg : ∀ (g : List (Key × List Int)) (k : Key) (w : Int),
    ((addSeg g k w).map (·.2.length)).sum = (g.map (·.2.length)).sum + 1 := by
  intro g
  induction g with
  | nil => intro k w; simp [addSeg]
  | cons a r ih =>
    intro k w
    obtain ⟨k0, ws0⟩ := a
    by_cases h0 : k0 = k
    · simp [addSeg, h0]; omega
    · simp [addSeg, h0, ih]; omega

/-- one wall time per iteration: the sizes of the groups add up to the number of segments -/
theorem sumLen_group : ∀ (segs : List Seg) (g : List (Key × List Int)),
    ((segs.foldl (fun g s => addSeg g s.key s.wall) g).map (·.2.length)).sum =
      (g.map (·.2.length)).sum + segs.length := by
  intro segs
  induction segs with
  | nil => intro g; simp
  | cons s r ih =>
    intro g
    simp only [List.foldl_cons, List.length_cons]
    rw [ih, sumLen_addSeg]; omega

theorem walls_sorted {info : Int → Info} {wallOf : Int → Int} {first last : Int} {segs : List Seg}
    (hseg : ∀ g ∈ segs, first ≤ g.start ∧ g.start < last ∧ SegOK info wallOf g)
    (hasc : segs.Pairwise (fun a b => a.start < b.start))
    (hmono : ∀ x y, first ≤ x → x < y → y < last → (info x).off = (info y).off → wallOf x < wallOf y) (k : Key) :
    (walls segs k).Pairwise (· < ·) := by
  unfold walls
  rw [List.pairwise_map]
  refine List.Pairwise.imp_of_mem ?_ (hasc.sublist List.filter_sublist)
  intro a b ha hb hab
  obtain ⟨ha1, ha2⟩ := List.mem_filter.mp ha
  obtain ⟨hb1, hb2⟩ := List.mem_filter.mp hb
  obtain ⟨a1, _, a3, _, _, a6⟩ := hseg a ha1
  obtain ⟨_, b2, b3, _, _, b6⟩ := hseg b hb1
  have hoff : a.key.offTo = b.key.offTo := by rw [of_decide_eq_true ha2, of_decide_eq_true hb2]
  rw [a6, b6]
  exact hmono _ _ a1 hab b2 (by rw [← a3, ← b3]; exact hoff)

theorem listMin_mem : ∀ (ws : List Int) (m : Int), listMin m ws ∈ m :: ws := by
  intro ws
  induction ws with
  | nil => intro m; simp [listMin]
  | cons x xs ih =>
    intro m
    unfold listMin
    rcases List.mem_cons.mp (ih (if x < m then x else m)) with h | h
    · rw [h]; split <;> simp
    · simp [h]

theorem listMin_of_lt : ∀ (ws : List Int) (m : Int), (∀ x ∈ ws, m < x) → listMin m ws = m := by
  intro ws
  induction ws with
  | nil => intro m _; rfl
  | cons x xs ih =>
    intro m h
    have hx := h x (by simp)
    have : ¬ x < m := by omega
    simp only [listMin, this, if_false]
    exact ih m (fun y hy => h y (List.mem_cons_of_mem _ hy))

theorem emit_onsets_mem (lastWall : Int) (k : Key) (ws : List Int) (hne : ws ≠ []) :
    ∀ x ∈ (emit lastWall (k, ws)).dtstart :: (emit lastWall (k, ws)).rdates, x = lastWall ∨ x ∈ ws := by
  cases ws with
  | nil => exact absurd rfl hne
  | cons w r =>
    intro x hx
    simp only [emit] at hx
    rcases List.mem_cons.mp hx with h | h
    · split at h
      · exact .inl h
      · exact .inr (h ▸ listMin_mem r w)
    · exact .inr (List.mem_of_mem_erase h)

theorem emit_onsets (lastWall : Int) (k : Key) (ws : List Int) (hne : ws ≠ [])
    (hnld : ∀ w ∈ ws, ¬ (lastWall ≤ w ∧ w < lastWall + 86400)) :
    ∀ x, x ∈ (toObs (emit lastWall (k, ws))).onsets ↔ x ∈ ws := by
  cases ws with
  | nil => exact absurd rfl hne
  | cons w r =>
    intro x
    have hm := listMin_mem r w
    simp only [toObs, emit, hnld _ hm, if_false]
    exact ((List.perm_cons_erase hm).mem_iff).symm

/-- the RFC onset instant the generated component gives to a segment -/
def onsetOf (g : Seg) : Int := g.wall - g.offFrom.getD g.offTo

theorem emit_entry (lastWall : Int) (q : Key × List Int) (s : Seg) (hk : s.key = q.1) :
    s.wall - (emit lastWall q).offFrom = onsetOf s ∧ (emit lastWall q).offTo = s.offTo ∧
    (emit lastWall q).name = s.name ∧ (emit lastWall q).isStd = s.isStd := by
  obtain ⟨k, ws⟩ := q
  subst hk
  cases ws <;> exact ⟨rfl, rfl, rfl, rfl⟩

theorem emit_sorted (lastWall : Int) (k : Key) (w : Int) (ws : List Int) (h : (w :: ws).Pairwise (· < ·)) :
    (emit lastWall (k, w :: ws)).rdates = ws ∧
    ((emit lastWall (k, w :: ws)).dtstart = w ∨
      ((emit lastWall (k, w :: ws)).dtstart = lastWall ∧ lastWall ≤ w ∧ w < lastWall + 86400)) ∧
    ((emit lastWall (k, w :: ws)).dtstart :: (emit lastWall (k, w :: ws)).rdates).Pairwise (· < ·) := by
  rw [List.pairwise_cons] at h
  have hm : listMin w ws = w := listMin_of_lt ws w h.1
  simp only [emit, hm, List.erase_cons_head]
  refine ⟨trivial, ?_, ?_⟩
  · by_cases hc : lastWall ≤ w ∧ w < lastWall + 86400
    · right; simp [hc]
    · left; simp [hc]
  · refine List.Pairwise.cons ?_ h.2
    intro x hx
    have := h.1 x hx
    split <;> omega

theorem emit_count (lastWall : Int) (q : Key × List Int) (hne : q.2 ≠ []) :
    1 + (emit lastWall q).rdates.length = q.2.length := by
  obtain ⟨k, ws⟩ := q
  cases ws with
  | nil => exact absurd rfl hne
  | cons w r =>
    have hm := listMin_mem r w
    simp only [emit, List.length_erase_of_mem hm, List.length_cons]
    omega

open ICal.Tz (Obs specAt specEntries specAt_latest specAt_none mem_specEntries)

theorem gen_entries {segs : List Seg} {lastWall : Int}
    (hnld : ∀ s ∈ segs, ¬ (lastWall ≤ s.wall ∧ s.wall < lastWall + 86400)) :
    (∀ p ∈ specEntries (((group segs).map (emit lastWall)).map toObs), ∃ s ∈ segs,
      p.1 = onsetOf s ∧ p.2.offTo = s.offTo ∧ p.2.name = s.name ∧ p.2.isDst = !s.isStd) ∧
    (∀ s ∈ segs, ∃ p ∈ specEntries (((group segs).map (emit lastWall)).map toObs),
      p.1 = onsetOf s ∧ p.2.offTo = s.offTo ∧ p.2.name = s.name ∧ p.2.isDst = !s.isStd) := by
  have hfrom := group_mem segs
  have hq_nld : ∀ q ∈ group segs, ∀ w ∈ q.2, ¬ (lastWall ≤ w ∧ w < lastWall + 86400) := by
    intro q hq w hw
    obtain ⟨s, hs, _, rfl⟩ := (hfrom q hq).2 w hw
    exact hnld s hs
  constructor
  · intro p hp
    obtain ⟨o, ho, l, hl, rfl⟩ := mem_specEntries.mp hp
    simp only [List.mem_map] at ho
    obtain ⟨_, ⟨q, hq, rfl⟩, rfl⟩ := ho
    obtain ⟨hne, hall⟩ := hfrom q hq
    obtain ⟨s, hs, hk, rfl⟩ := hall l ((emit_onsets lastWall q.1 q.2 hne (hq_nld q hq) l).mp hl)
    obtain ⟨e1, e2, e3, e4⟩ := emit_entry lastWall q s hk
    exact ⟨s, hs, e1, e2, e3, congrArg (!·) e4⟩
  · intro s hs
    have hq := (group_spec segs).2.2 s hs
    obtain ⟨hne, _⟩ := hfrom _ hq
    have hl := (emit_onsets lastWall s.key _ hne (hq_nld _ hq) s.wall).mpr (mem_walls.mpr ⟨s, hs, rfl, rfl⟩)
    obtain ⟨e1, e2, e3, e4⟩ := emit_entry lastWall (s.key, walls segs s.key) s rfl
    exact ⟨_, mem_specEntries.mpr ⟨_, List.mem_map_of_mem (List.mem_map_of_mem hq), s.wall, hl, rfl⟩,
      e1, e2, e3, congrArg (!·) e4⟩

/-- What the generated component reads at `t` by RFC 5545 onset rules, for any segment list: when the
    onsets given to the segments are in the order of their starts (`hsep`) and `t` is on the same
    side of every start and its onset (`hout`), it is the data of a segment with the latest start not
    after `t`. -/
theorem gen_reads {segs : List Seg} {lastWall : Int}
    (hnld : ∀ s ∈ segs, ¬ (lastWall ≤ s.wall ∧ s.wall < lastWall + 86400))
    (hsep : ∀ a ∈ segs, ∀ b ∈ segs, a.start < b.start → onsetOf a < onsetOf b) (t : Int)
    (hout : ∀ g ∈ segs, (g.start ≤ t → onsetOf g ≤ t) ∧ (onsetOf g ≤ t → g.start ≤ t))
    (gs : Seg) (hgs : gs ∈ segs) (hgst : gs.start ≤ t) (hgmax : ∀ g' ∈ segs, g'.start ≤ t → g'.start ≤ gs.start) :
    ∃ b sb, specAt (((group segs).map (emit lastWall)).map toObs) t = some b ∧ sb ∈ segs ∧ sb.start = gs.start ∧
      b.2.offTo = sb.offTo ∧ b.2.name = sb.name ∧ b.2.isDst = !sb.isStd := by
  obtain ⟨hE1, hE2⟩ := gen_entries hnld
  have hons : onsetOf gs ≤ t := (hout gs hgs).1 hgst
  obtain ⟨ps, hps, hps1, _⟩ := hE2 gs hgs
  cases hsp : specAt (((group segs).map (emit lastWall)).map toObs) t with
  | none => exact absurd (hps1 ▸ hons) (specAt_none hsp ps hps)
  | some b =>
    obtain ⟨hb1, hb2, hb3⟩ := specAt_latest hsp
    obtain ⟨sb, hsb, hsb1, hsb2⟩ := hE1 b hb1
    -- `sb` starts not after `gs`; if it started earlier its onset would be earlier too, but it is the latest
    have hle : sb.start ≤ gs.start := hgmax sb hsb ((hout sb hsb).2 (hsb1 ▸ hb2))
    have hge : onsetOf gs ≤ onsetOf sb := by
      rw [← hsb1, ← hps1]; exact hb3 ps hps (hps1 ▸ hons)
    refine ⟨b, sb, rfl, hsb, ?_, hsb2⟩
    rcases Int.lt_or_eq_of_le hle with hlt | h
    · have := hsep sb hsb gs hgs hlt; omega
    · exact h

end ICal.TzGen
