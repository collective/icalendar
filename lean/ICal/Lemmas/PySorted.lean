/-
  `sorted(..)` of strings in the runtime of tools/py2lean.py (`pySortedStr` of ICal/Model/PyRTTzUse.lean) is the
  insertion sort `sortStr` of ICal/Model/TzUse.lean; what makes statements about Python sets independent of their
  iteration order (`sortStr_sorted`, `sortStr_congr`) is in ICal/Lemmas/TzUse.lean.  Shared by
  ICal/Lemmas/BodiesTzUse.lean (C18) and ICal/Lemmas/BodiesCDictSort.lean (C17); imports no generated file.
-/
import ICal.Model.PyRTTzUse
import ICal.Lemmas.TzUse
namespace ICal.Bodies
open ICal ICal.PyRT

theorem pyInsertStr_eq : ∀ (k : Str) (l : List Str), pyInsertStr k l = insertSorted k l
  | _, [] => rfl
  | k, x :: xs => by simp only [pyInsertStr, insertSorted, pyInsertStr_eq k xs]

theorem pySortedStr_eq : ∀ (l : List Str), pySortedStr l = sortStr l
  | [] => rfl
  | x :: xs => by
    have ih := pySortedStr_eq xs
    simp only [pySortedStr, sortStr, List.foldr_cons] at ih ⊢
    rw [ih, pyInsertStr_eq]

end ICal.Bodies
