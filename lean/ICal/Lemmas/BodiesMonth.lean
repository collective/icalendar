/-
  Equality of the regenerated `vMonth.__new__` on a str (ICal/Gen/BodiesDec.lean, tools/py2lean.py: all digits, or a last
  character - `month[-1]`, IndexError on the empty str - that must be `L` unless what precedes it is not all digits, then
  `int(month[:-1])`) with the hand model `vMonthNew` of ICal/Model/Codec.lean.  The int object made by
  `super().__new__` is the pair (index, leap).
-/
import ICal.Lemmas.BodiesDec
import ICal.Lemmas.Codec
namespace ICal.Bodies
open ICal ICal.PyRT ICal.Gen.BodiesDec

def moNew (i : Int) : Int × Bool := (i, false)
def moSetLeap (m : Int × Bool) (l : Bool) : Int × Bool := (m.1, l)

theorem vMonth_new_eq (t : Str) :
    vMonth_new (month := t) (params := ()) (new_int := moNew) (set_leap := moSetLeap) (params_of := fun _ => ()) (set_params := fun m _ => m) =
      liftRes id (vMonthNew t) := by
  unfold vMonth_new vMonthNew
  by_cases hd : isDigitStr t = true
  · obtain ⟨hne, hds⟩ := (Codec.isDigitStr_iff t).1 hd
    simp only [hd, if_true, intOfStr_eq, Codec.pyIntE_digits t hds hne, liftRes, bind, Except.bind, pure, Except.pure, moNew, moSetLeap, id]
  · simp only [hd, if_false, Bool.false_eq_true, strIndex_neg1, pySliceToI_neg1]
    cases hl : t.getLast? with
    | none => rfl
    | some l =>
      simp only [bind, Except.bind]
      by_cases hc : (l ≠ 'L' ∧ isDigitStr t.dropLast = true)
      · simp [hc, liftRes, throw_eq]
      · have : ((!(l == 'L')) && isDigitStr t.dropLast) = false := by
          by_cases h1 : l = 'L' <;> by_cases h2 : isDigitStr t.dropLast = true <;> simp_all
        simp only [this, Bool.false_eq_true, if_false, hc, intOfStr_eq, pyIntE]
        cases hp : pyInt t.dropLast with
        | none => simp [liftRes]
        | some z => simp [liftRes, pure, Except.pure, moNew, moSetLeap]

end ICal.Bodies
