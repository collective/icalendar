/-
  Equality of the regenerated `Component.content_line`, `content_lines` and `to_ical` (ICal/Gen/BodiesSer.lean,
  tools/py2lean.py: the loop `for name, value in self.property_items(sorted=sorted)` over the pairs, the call of the
  translated `property_items` and `content_line` with their keyword arguments, the final empty line, `Contentlines()` as
  the empty list) with the hand model `itemLine`, `contentLines`, `toIcal` of ICal/Model/Ser.lean.  The external pieces
  are those of ICal/Model/SerPieces.lean.
-/
import ICal.Lemmas.BodiesSer
namespace ICal.Bodies
open ICal ICal.PyRT ICal.Gen.BodiesSer

/-- `content_line(name, value, sorted)` is the model's line of the item the serialiser sees in the pair -/
theorem content_line_eq (c : Comp) (n : Str) (v : PyIV) (sorted : Bool) :
    contentLineP c n v sorted = liftL (itemLine sorted (ivItem (n, v))) := by
  obtain ⟨cn, cp, cs⟩ := c
  unfold contentLineP Component_content_line itemLine fromPartsP
  cases v <;> simp [isBytesP, inlineOfP, paramsOfP, textOfP, ivItem] <;>
    (split <;> rfl)

theorem liftL_bind {α β : Type} (x : Except LineErr α) (f : α → Except LineErr β) :
    liftL (x >>= f) = liftL x >>= fun a => liftL (f a) := by
  cases x with
  | error e => cases e <;> rfl
  | ok a => rfl

theorem liftL_map {α β : Type} (g : α → β) (x : Except LineErr α) :
    liftL (x.map g) = liftL x >>= fun a => pure (g a) := by
  cases x with
  | error e => cases e <;> rfl
  | ok a => rfl

theorem content_lines_loop (sorted : Bool) (cn : Str) (cp : List Entry) (cs : List Comp) (l : List PyItem) : ∀ (acc : List Str),
    Component_content_lines_loop1 (name_to_ical := nameToIcalP) (sorted_keys := sortedKeysP) (keys := keysP) (getitem := getitemP)
        (params_of := paramsOfP) (is_bytes := isBytesP) (inline_of := inlineOfP) (from_parts := fromPartsP) cn cp cs sorted acc l =
      (liftL (l.mapM (fun x => itemLine sorted (ivItem x))) >>= fun r => pure (acc ++ r)) := by
  induction l with
  | nil => intro acc; simp [Component_content_lines_loop1, liftL, pure, Except.pure, bind, Except.bind]
  | cons it l ih =>
    intro acc
    have h := content_line_eq (.mk cn cp cs) it.1 it.2 sorted
    unfold contentLineP at h
    rw [Component_content_lines_loop1, h, List.mapM_cons, liftL_bind]
    simp only [ih, liftL_bind, bind_assoc, List.append_assoc, List.singleton_append]
    rfl

/-- `content_lines(sorted)` is the model's `contentLines` followed by the empty line -/
theorem content_lines_eq (c : Comp) (sorted : Bool) :
    contentLinesP c sorted = liftL ((contentLines sorted c).map (fun ls => ls ++ [[]])) := by
  obtain ⟨cn, cp, cs⟩ := c
  unfold contentLinesP Component_content_lines contentLines
  simp only []
  have hp : Component_property_items nameToIcalP sortedKeysP keysP getitemP (.mk cn cp cs) true sorted =
      pure (pyItems sorted (.mk cn cp cs)) := property_items_eq sorted _
  rw [hp, liftL_map, ← pyItems_items sorted (.mk cn cp cs), List.mapM_map]
  simp only [content_lines_loop, bind_assoc, pure_bind, List.nil_append, Function.comp_def]

theorem linesToIcal_snoc_empty (ls : List Str) : linesToIcal (ls ++ [[]]) = linesToIcal ls := by
  simp [linesToIcal, List.filter_append]

theorem to_ical_eq (c : Comp) (sorted : Bool) : toIcalP c sorted = liftL (toIcal sorted c) := by
  obtain ⟨cn, cp, cs⟩ := c
  unfold toIcalP Component_to_ical toIcal
  have h := content_lines_eq (.mk cn cp cs) sorted
  unfold contentLinesP at h
  simp only []
  rw [h, liftL_map, liftL_map]
  simp only [bind_assoc, pure_bind, linesToIcal_snoc_empty]

end ICal.Bodies
