/-
  Equality of the regenerated `parser.foldline` (ICal/Gen/BodiesFold.lean, tools/py2lean.py) with the hand
  model `foldlineWith` / `foldline` of ICal/Model/Fold.lean, both paths: the ASCII path
  (`fold_sep.join(line[i:i+limit-1] for i in range(0, len(line), limit-1))`: the runtime's `range`
  and int-indexed slices give the model's `chunks`) and the per-character octet-counting loop.
  `limit >= 2` (for `limit == 1` the source raises ValueError: `range()` step 0).
-/
import ICal.Gen.BodiesFold
import ICal.Model.Fold
import ICal.Lemmas.BodiesRT
namespace ICal.Bodies
open ICal ICal.PyRT ICal.Gen.BodiesFold

theorem joinWith_eq_joinSegs (sep : Str) (l : List Str) : joinWith sep l = joinSegs sep l := by
  induction l with
  | nil => rfl
  | cons a t ih => cases t with
    | nil => rfl
    | cons b u => simp only [joinWith, joinSegs]; rw [ih]

theorem chunks_nil (k : Nat) : chunks k [] = [] := by rw [chunks, dif_pos (Or.inr rfl)]

/-- `[line[i:i+k] for i in range(d, len(line), k)]` are the chunks of `line[d:]` -/
theorem range_chunks (l : Str) (k : Nat) (hk : 0 < k) : ∀ (fuel d : Nat), l.length - d ≤ fuel →
    (rangeUp (l.length : Int) (k : Int) fuel (d : Int)).map (fun i => pySliceI l i (i + (k : Int))) =
      chunks k (l.drop d) := by
  intro fuel
  induction fuel with
  | zero =>
    intro d hf
    rw [List.drop_of_length_le (by omega), chunks_nil]; rfl
  | succ f ih =>
    intro d hf
    rw [rangeUp]
    by_cases hlt : d < l.length
    · have hne : ¬ (k = 0 ∨ l.drop d = []) := by
        rw [List.drop_eq_nil_iff]; omega
      rw [chunks.eq_1 k (l.drop d), dif_neg hne, if_pos (Int.ofNat_lt.mpr hlt), List.map_cons,
        ← Int.natCast_add, pySliceI_nat, ih (d + k) (by omega), List.drop_drop, Nat.add_sub_cancel_left]
    · rw [if_neg (fun h => hlt (Int.ofNat_lt.mp h)), List.drop_of_length_le (by omega), chunks_nil]; rfl
theorem isAsciiStr_eq (l : Str) : isAsciiStr l = isAscii l := rfl

/-- the non-ASCII path: the accumulating loop is the hand model's `foldUni` -/
theorem foldline_loop (limit : Nat) (sep : Str) (l : Str) : ∀ (cnt : Nat) (acc : Str),
    ∃ n : Int, foldline_loop1 (limit : Int) sep (cnt : Int) acc l = .ok (n, acc ++ foldUni limit sep cnt l) := by
  induction l with
  | nil => intro cnt acc; exact ⟨cnt, by simp [foldline_loop1, foldUni, pure, Except.pure]⟩
  | cons c cs ih =>
    intro cnt acc
    have e1 : ((cnt : Int) + utf8Len c) = ((cnt + w c : Nat) : Int) := by simp [utf8Len, w]
    have e2 : utf8Len c = ((w c : Nat) : Int) := rfl
    simp only [foldline_loop1, foldUni, e1]
    by_cases h : cnt + w c ≥ limit
    · have hd : decide (((cnt + w c : Nat) : Int) ≥ (limit : Int)) = true := by simp; omega
      obtain ⟨n, hn⟩ := ih (w c) (acc ++ sep ++ [c])
      refine ⟨n, ?_⟩
      simp only [hd, if_true, h, e2]
      rw [hn]; simp
    · have hd : decide (((cnt + w c : Nat) : Int) ≥ (limit : Int)) = false := by simp; omega
      obtain ⟨n, hn⟩ := ih (cnt + w c) (acc ++ [c])
      refine ⟨n, ?_⟩
      simp only [hd, h, if_false, Bool.false_eq_true]
      rw [hn]; simp

theorem foldline_eq (limit : Nat) (hl : 2 ≤ limit) (sep line : Str) :
    Gen.BodiesFold.foldline line (limit : Int) sep = .ok (foldlineWith limit sep line) := by
  have hm : Gen.foldSliceMinus = 1 := by decide
  simp only [Gen.BodiesFold.foldline, foldlineWith, isAsciiStr_eq, hm]
  by_cases ha : isAscii line = true
  · have e1 : ((limit : Int) - 1) = ((limit - 1 : Nat) : Int) := by omega
    have hs : ¬ (((limit - 1 : Nat) : Int) = 0) := by omega
    have hp : ((limit - 1 : Nat) : Int) > 0 := by omega
    have e2 : ∀ i : Int, i + (limit : Int) - 1 = i + ((limit - 1 : Nat) : Int) := by intro i; omega
    have e3 : (((line.length : Nat) : Int) - 0).toNat = line.length := by simp
    simp only [ha, if_true, e1, pyRange, hs, if_false, hp, e2, bind, Except.bind, pure, Except.pure, strLen_eq, e3]
    have := range_chunks line (limit - 1) (by omega) line.length 0 (by omega)
    simp only [List.drop_zero] at this
    have e0 : ((0 : Nat) : Int) = 0 := rfl
    rw [e0] at this
    rw [this, joinWith_eq_joinSegs]
  · simp only [ha, if_false, Bool.false_eq_true]
    obtain ⟨n, hn⟩ := foldline_loop limit sep line 0 []
    have e0 : ((0 : Nat) : Int) = 0 := rfl
    rw [e0] at hn
    rw [hn]
    simp [bind, Except.bind, pure, Except.pure]

/-- with the defaults of the source (`limit=75`, `fold_sep='\r\n '`, read from the source as `Gen.foldLimit`, `Gen.foldSep`) -/
theorem foldline_default_eq (line : Str) :
    Gen.BodiesFold.foldline line (Gen.foldLimit : Int) Gen.foldSep = .ok (ICal.foldline line) :=
  foldline_eq Gen.foldLimit (by decide) Gen.foldSep line

end ICal.Bodies
