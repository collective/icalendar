/-
  Equality of the regenerated bodies of alarms.py (ICal/Gen/BodiesAlarm.lean, tools/py2lean.py) with the
  hand model ICal/Model/Alarm.lean.  The translated code works on date/datetime OBJECTS (`Trig`); the
  acknowledgement and snooze times of the hand model are instants (`Int`, always UTC-aware datetimes
  in the source: `awareO` embeds them), its errors are `AErr` (`liftA` maps them to the Python
  exception classes).  `tools.to_datetime` is a function parameter, instantiated with the model's.
-/
import ICal.Gen.BodiesAlarm
namespace ICal.Bodies
open ICal ICal.PyRT ICal.Alarms ICal.Gen.BodiesAlarm

/-- an optional UTC instant as an optional aware datetime object -/
def awareO (o : Option Int) : Option Trig := o.map Trig.aware

def liftA {α : Type} : Except AErr α → Py α
  | .ok v => .ok v
  | .error .localTimezoneMissing => .error .localTimezoneMissing
  | .error .componentStartMissing => .error .componentStartMissing
  | .error .componentEndMissing => .error .componentEndMissing

theorem AlarmTime_acknowledged_eq (a : AlarmTime) :
    AlarmTime_acknowledged (alarm_acknowledged := awareO a.alarm.acknowledged) (last_ack := awareO a.lastAck) = .ok (awareO a.acknowledged) := by
  unfold AlarmTime.acknowledged
  cases a.alarm.acknowledged with
  | none => rfl
  | some x =>
    cases a.lastAck with
    | none => rfl
    | some y =>
      -- `max(a, b)` is `b if b > a else a`
      show Except.ok (some (if decide (y > x) then Trig.aware y else Trig.aware x)) = .ok (some (Trig.aware (max x y)))
      by_cases h : y > x
      · rw [decide_eq_true h, Int.max_eq_right (by omega)]; rfl
      · rw [decide_eq_false h, Int.max_eq_left (by omega)]; rfl

theorem AlarmTime_trigger_eq (a : AlarmTime) :
    AlarmTime_trigger (snooze_until := awareO a.snooze) (trigger_raw := a.trig) (to_datetime := toDatetime) = liftA a.trigger := by
  unfold AlarmTime_trigger AlarmTime.trigger
  cases a.snooze with
  | none => rfl
  | some s =>
    cases a.trig with
    | aware t =>
      by_cases h : s > t <;>
        simp [awareO, toDatetime, h, tzinfoIsNone, dtGt, liftA, pure, Except.pure, bind, Except.bind]
    | _ => rfl

theorem AlarmTime_is_active_eq (a : AlarmTime) :
    AlarmTime_is_active (alarm_acknowledged := awareO a.alarm.acknowledged) (last_ack := awareO a.lastAck) (snooze_until := awareO a.snooze)
        (trigger_raw := a.trig) (to_datetime := toDatetime) =
      liftA a.isActive := by
  simp only [AlarmTime_is_active, AlarmTime_acknowledged_eq, AlarmTime_trigger_eq, AlarmTime.isActive,
    bind, Except.bind]
  -- both branches end by comparing the reported trigger, whatever it is, with the acknowledgement
  generalize a.trigger = tr
  cases a.acknowledged with
  | none => rfl
  | some ack =>
    cases a.snooze with
    | none =>
      cases tr with
      | error e => cases e <;> rfl
      | ok t => cases t <;> rfl
    | some s =>
      by_cases h : s > ack
      · simp [awareO, h, dtGt, liftA, pure, Except.pure]
      · simp only [awareO, Option.map_some, dtGt, h, decide_false, Bool.false_eq_true, if_false]
        cases tr with
        | error e => cases e <;> rfl
        | ok t => cases t <;> rfl

theorem is_date_eq (t : Trig) : is_date t = t.isDate := by
  cases t <;> rfl

theorem is_datetime_eq (t : Trig) : is_datetime t = !t.isDate := rfl

/-- `normalize_pytz` is the identity on the model's values (aware arithmetic is exact elapsed time there) -/
theorem Alarms_add_eq (dt : Trig) (td : Int) : Alarms_add (dt := dt) (td := td) (to_datetime := toDatetime) (normalize_pytz := id) = add dt td := by
  have hm : pyMod td 86400 = td % 86400 := by simp [pyMod]
  cases dt with
  | date d =>
    simp only [Alarms_add, is_date_eq, Trig.isDate, add, hm, if_true, id]
    by_cases h : td % 86400 = 0 <;> simp [h]
  | _ => simp [Alarms_add, is_date_eq, Trig.isDate, add]

theorem rangeUp_one (n : Nat) : ∀ k : Nat,
    rangeUp (((k + n : Nat)) : Int) 1 n (k : Int) = (List.range' k n).map (fun (i : Nat) => (i : Int)) := by
  induction n with
  | zero => intro k; simp [rangeUp]
  | succ m ih =>
    intro k
    have h : ((k : Int) < ((k + (m + 1) : Nat) : Int)) := by omega
    have e : ((k : Int) + 1) = ((k + 1 : Nat) : Int) := by push_cast; rfl
    have e2 : k + (m + 1) = (k + 1) + m := by omega
    simp only [rangeUp, h, if_true, e, List.range'_succ, List.map_cons]
    rw [e2, ih (k + 1)]

theorem pyRange_one_to (r : Int) :
    pyRange 1 (r + 1) 1 = .ok ((List.range' 1 r.toNat).map (fun (i : Nat) => (i : Int))) := by
  have h1 : ¬ ((1 : Int) = 0) := by decide
  have h2 : ((1 : Int) > 0) := by decide
  simp only [pyRange, h1, if_false, h2, if_true]
  have e : (r + 1 - 1).toNat = r.toNat := by omega
  rw [e]
  by_cases hr : 0 ≤ r
  · have e3 : r + 1 = ((1 + r.toNat : Nat) : Int) := by omega
    rw [e3]
    have := rangeUp_one r.toNat 1
    simpa using this
  · have e4 : r.toNat = 0 := by omega
    simp [e4, rangeUp]

theorem Alarms_repeat_loop (first : Trig) (d : Int) (l : List Int) : ∀ acc : List Trig,
    Alarms_repeat_loop1 (to_datetime := toDatetime) (normalize_pytz := id) first d acc l = .ok (acc ++ l.map (fun i => add first (d * i))) := by
  induction l with
  | nil => intro acc; simp [Alarms_repeat_loop1, pure, Except.pure]
  | cons i rest ih => intro acc; simp only [Alarms_repeat_loop1, Alarms_add_eq]; rw [ih]; simp

theorem Alarms_repeat_eq (first : Trig) (a : VAlarm) :
    Alarms_repeat (first := first) (alarm_repeat := a.rep) (alarm_duration := a.duration) (to_datetime := toDatetime) (normalize_pytz := id) = .ok (repeatTimes first a) := by
  simp only [Alarms_repeat, repeatTimes, Truthy.truthy]
  by_cases hr : a.rep = 0
  · cases a.duration <;> simp [hr, pure, Except.pure, bind, Except.bind]
  · have hb : (a.rep != 0) = true := by simp [hr]
    cases hd : a.duration with
    | none => simp [hb, pure, Except.pure, bind, Except.bind]
    | some d =>
      simp only [hb, if_true, pyRange_one_to, Alarms_repeat_loop, bind, Except.bind, pure, Except.pure, hr, ne_eq,
        not_false_eq_true]
      simp [List.map_map, Function.comp_def]

theorem Alarms_active_eq (ts : List AlarmTime) :
    Alarms_active ts (fun x => liftA x.isActive) = liftA (filterE AlarmTime.isActive ts) := by
  show pyFilterM (fun x => liftA x.isActive) ts = _
  induction ts with
  | nil => rfl
  | cons x xs ih =>
    simp only [pyFilterM, filterE, ih]
    cases x.isActive with
    | error e => cases e <;> rfl
    | ok b =>
      cases filterE AlarmTime.isActive xs with
      | error e => cases e <;> rfl
      | ok r => rfl

end ICal.Bodies
