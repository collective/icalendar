/-
  Equality of the regenerated typed dispatchers of prop.py (ICal/Gen/BodiesDec.lean, ICal/Gen/Bodies.lean, tools/py2lean.py)
  with the hand model of ICal/Model/Codec.lean:
  `vDDDTypes.from_ical` - the ORDER of its tests: duration prefix (`P`, `-P`, `+P` of the upper-cased text), then a
  slash (period), then the length 15 / 16 (datetime), 8 (date), 6 / 7 (time), else ValueError - is `dddCore` / `dddFrom`;
  `vPeriod.from_ical` (`a, b = ical.split('/')`, both parts through the dispatcher, every failure a ValueError) is
  `vPeriodFrom`.  The two call each other in the source; each is translated with the other as a parameter and the knot
  is tied in ICal/Model/DDDPieces.lean (`dddInnerP`, `periodFromP`, `dddFromP`); that this is sound is `ddd_inner_indep`
  below: on a text without '/' the dispatcher ignores that parameter.
  `vDDDTypes.to_ical` (instance tests in the order datetime, date, timedelta, time, tuple; a value of the union `PyDDD`
  is narrowed by each test) is `atomTo`, `vPeriod.to_ical` is `vPeriodTo`.  The UTC flag of a datetime is not among the
  fields of `PyDateTime`: it comes back through the parameter for `tzid_from_dt` (`TzAgrees`).
-/
import ICal.Model.DDDPieces
import ICal.Lemmas.BodiesDec
import ICal.Lemmas.Bodies
import ICal.Lemmas.Logic
namespace ICal.Bodies
open ICal ICal.PyRT ICal.Gen.BodiesDec ICal.Gen.Bodies

/-- what the translated code holds for a value of the model -/
def dtPy (lu : PyDateTime → PyDateTime) (p : PDateTime) : PyDateTime :=
  if p.utc then lu (dateTimeOf { p with utc := false }) else dateTimeOf p
def atomPy (lu : PyDateTime → PyDateTime) : Atom → PyDDD
  | .date d => .date (dateOf d)
  | .dt t => .dt (dtPy lu t)
  | .time t => .time (timeOf t)
  | .dur s => .dur (TD.ofSeconds s)
def dddPy (lu : PyDateTime → PyDateTime) : DDD → PyDDD
  | .atom a => atomPy lu a
  | .period a b => .period (atomPy lu a) (atomPy lu b)

/-- a final `pure (g ·)` of the translated code against `.map k` of the model -/
theorem liftRes_map {α β γ δ : Type} {f : α → β} {g : β → γ} {k : α → δ} {h : δ → γ} (x : CRes α)
    (e : ∀ a, g (f a) = h (k a)) :
    (liftRes f x >>= fun y => (pure (g y) : Py γ)) = liftRes h (x.map k) := by
  cases x with
  | ok v => exact congrArg Except.ok (e v)
  | error e => cases e <;> rfl

theorem liftRes_ite {β γ : Type} {c : Prop} [i1 : Decidable c] [i2 : Decidable c] {f : γ → β} {A B : Py β}
    {A' B' : CRes γ} (h1 : A = liftRes f A') (h2 : B = liftRes f B') :
    (@ite _ c i1 A B) = liftRes f (@ite _ c i2 A' B') := by
  by_cases hc : c
  · rw [if_pos hc, if_pos hc, h1]
  · rw [if_neg hc, if_neg hc, h2]

/-- the dispatcher, for any period decoder that agrees with a decoder of the model -/
theorem ddd_core_eq (lu : PyDateTime → PyDateTime) (per : Str → Unit → Py (PyDDD × PyDDD)) (perM : Str → CRes DDD)
    (h : ∀ s, (per s () >>= fun r => (pure (PyDDD.period r.1 r.2) : Py PyDDD)) = liftRes (dddPy lu) (perM s)) (t : Str) :
    vDDDTypes_from_ical (ical := t) (m_of := durGroups) (period_from_ical := per) (localize_utc := lu) =
      liftRes (dddPy lu) (dddCore perM t) := by
  have hl : strLen t = (t.length : Int) := rfl
  have c15 : ([(15 : Int), (16 : Int)].contains (strLen t)) = decide (t.length = 15 ∨ t.length = 16) := by
    by_cases h : t.length = 15 ∨ t.length = 16
    · rcases h with h | h <;> simp [hl, h]
    · simp [hl, h]; omega
  have c8 : (strLen t == (8 : Int)) = decide (t.length = 8) := by
    by_cases h : t.length = 8
    · simp [hl, h]
    · simp [hl, h]; omega
  have c6 : ([(6 : Int), (7 : Int)].contains (strLen t)) = decide (t.length = 6 ∨ t.length = 7) := by
    by_cases h : t.length = 6 ∨ t.length = 7
    · rcases h with h | h <;> simp [hl, h]
    · simp [hl, h]; omega
  unfold vDDDTypes_from_ical dddCore
  simp only [vDuration_from_ical_eq, vDatetime_from_ical_eq, vDate_from_ical_eq, vTime_from_ical_eq, c15, c8, c6,
    decide_eq_true_eq]
  exact liftRes_ite (liftRes_map (durFromE t) fun _ => rfl) <| liftRes_ite (h t) <|
    liftRes_ite (liftRes_map (vDatetimeFrom t) fun _ => rfl) <|
    liftRes_ite (liftRes_map (vDateFrom t) fun _ => rfl) <|
    liftRes_ite (liftRes_map (vTimeFrom t) fun _ => rfl) rfl

theorem ddd_inner_eq (lu : PyDateTime → PyDateTime) (t : Str) :
    dddInnerP lu t = liftRes (dddPy lu) (dddCore (fun _ => .error .valueError) t) :=
  ddd_core_eq lu _ _ (fun _ => rfl) t

/-- a part without '/' never reaches the period branch: the dispatcher does not look at its period parameter -/
theorem ddd_inner_indep (lu : PyDateTime → PyDateTime) (per per' : Str → Unit → Py (PyDDD × PyDDD)) (t : Str)
    (h : (upper t).contains '/' = false) :
    vDDDTypes_from_ical (ical := t) (m_of := durGroups) (period_from_ical := per) (localize_utc := lu) =
      vDDDTypes_from_ical (ical := t) (m_of := durGroups) (period_from_ical := per') (localize_utc := lu) := by
  unfold vDDDTypes_from_ical
  simp only [h, Bool.false_eq_true, if_false]

theorem map_atom_ok {α : Type} {x : CRes α} {f : α → Atom} {d : DDD}
    (h : x.map (fun a => DDD.atom (f a)) = .ok d) : ∃ a, d = .atom a := by
  cases x with
  | error e => cases h
  | ok v => exact ⟨f v, (Except.ok.inj h).symm⟩

theorem dddCore_fail_atom (t : Str) (d : DDD) (h : dddCore (fun _ => .error .valueError) t = .ok d) : ∃ x, d = .atom x := by
  unfold dddCore at h
  -- one branch of the dispatcher at a time: each is a decoder's result made an atom, or a failure
  refine of_ite_eq h (fun _ => map_atom_ok) fun _ h => ?_
  refine of_ite_eq h (fun _ h => by cases h) fun _ h => ?_
  refine of_ite_eq h (fun _ => map_atom_ok) fun _ h => ?_
  refine of_ite_eq h (fun _ => map_atom_ok) fun _ h => ?_
  refine of_ite_eq h (fun _ => map_atom_ok) fun _ h => ?_
  cases h

/-- `vPeriod.from_ical(t)`: the pair of what the dispatcher makes of the two parts; every failure is ValueError -/
theorem period_eq (lu : PyDateTime → PyDateTime) (t : Str) :
    (periodFromP lu t >>= fun r => (pure (PyDDD.period r.1 r.2) : Py PyDDD)) = liftRes (dddPy lu) (vPeriodFrom t) := by
  unfold periodFromP vPeriod_from_ical vPeriodFrom
  simp only [ddd_inner_eq]
  cases hs : splitOnChar '/' t with
  | nil => rfl
  | cons a l1 =>
    cases l1 with
    | nil => rfl
    | cons b l2 =>
      cases l2 with
      | cons c l3 => rfl
      | nil =>
        simp only [listUnpack2, bind, Except.bind]
        cases ha : dddCore (fun _ => .error .valueError) a with
        | error e => cases e <;> rfl
        | ok x =>
          obtain ⟨xa, rfl⟩ := dddCore_fail_atom a x ha
          cases hb : dddCore (fun _ => .error .valueError) b with
          | error e => cases e <;> rfl
          | ok y =>
            obtain ⟨ya, rfl⟩ := dddCore_fail_atom b y hb
            rfl

/-- the translated `vDDDTypes.from_ical` (with the translated `vPeriod.from_ical`, `vDuration` / `vDatetime` / `vDate` /
    `vTime.from_ical`) is the model's `dddFrom` -/
theorem ddd_from_eq (lu : PyDateTime → PyDateTime) (t : Str) : dddFromP lu t = liftRes (dddPy lu) (dddFrom t) :=
  ddd_core_eq lu _ _ (period_eq lu) t

/-- the UTC flag of the model's datetimes comes back through `tzid_from_dt` -/
def TzAgrees (tz : PyDateTime → Option Str) : Atom → Prop
  | .dt t => t.utc = (tz (dateTimeOf t) == some UTC)
  | _ => True

/-- the translated `vDDDTypes.to_ical` on an atom is the model's `atomTo` (isinstance dispatch: datetime before date) -/
theorem atom_to_eq (tz : PyDateTime → Option Str) (a : Atom) (h : TzAgrees tz a) : atomToP tz a = .ok (atomTo a) := by
  unfold atomToP vDDDTypes_to_ical
  cases a with
  | date d => simp [atomObj, atomTo, pure, Except.pure]; exact vDate_to_ical_eq d
  | dt t => simp [atomObj, atomTo, pure, Except.pure]; exact vDatetime_to_ical_eq t _ h
  | time t => simp [atomObj, atomTo, pure, Except.pure, timeToP, vTimeTo]
  | dur s => simp [atomObj, atomTo, pure, Except.pure]; exact vDuration_of_seconds s

theorem period_to_eq (tz : PyDateTime → Option Str) (a b : Atom) (ha : TzAgrees tz a) (hb : TzAgrees tz b) :
    periodToP tz a b = .ok (vPeriodTo a b) := by
  have h1 := atom_to_eq tz a ha
  have h2 := atom_to_eq tz b hb
  unfold atomToP at h1 h2
  unfold periodToP vPeriod_to_ical vPeriodTo
  cases b with
  | dur s =>
    simp only [isDurAtom, if_true, Truthy.truthy, durSeconds]
    rw [h1]
    simp [bind, Except.bind, pure, Except.pure, atomTo, vDuration_of_seconds]
  | date d => simp only [isDurAtom] ; rw [h1, h2]; simp [Truthy.truthy, bind, Except.bind, pure, Except.pure]
  | dt d => simp only [isDurAtom] ; rw [h1, h2]; simp [Truthy.truthy, bind, Except.bind, pure, Except.pure]
  | time d => simp only [isDurAtom] ; rw [h1, h2]; simp [Truthy.truthy, bind, Except.bind, pure, Except.pure]

end ICal.Bodies
