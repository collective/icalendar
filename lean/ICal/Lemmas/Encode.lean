/-
  What C02 uses of the encoder model (ICal/Model/Encode.lean): a value built by a class constructor carries that class
  (`construct1_kind`), `add` is an upsert on the entry list (`accumulate_eq`, `valuesOf_addAll`, `isListOf_addAll`), what
  parameters a vDDDLists value gets (`listParams_value`, `listParams_tzid`), and one sweep over the RFC table
  (`rfc5545_rows`).  The last section shows that a tree built by scalar `add`s lies in the domain of C01 (`build_wf`).
-/
import ICal.Model.Encode
import ICal.Lemmas.Parse
import ICal.Lemmas.Logic
namespace ICal.Enc

/- `cases h` here would bring the class constant to constructor form, character by character. -/
theorem kind_of_ok {k t : Str} {p : Params} {val : Val} (h : (.ok ⟨k, t, p⟩ : Res Val) = .ok val) : val.kind = k := by
  injection h with h; rw [← h]

theorem mkDDD_kind {v : PyVal} {val : Val} (h : mkDDD v = .ok val) : val.kind = cDDD := by
  unfold mkDDD at h
  split at h
  · exact kind_of_ok h
  · exact kind_of_ok h
  · exact kind_of_ok h
  · cases h

theorem mkDDDLists_kind {a : PyArg} {val : Val} (h : mkDDDLists a = .ok val) : val.kind = cDDDLists := by
  unfold mkDDDLists at h
  split at h
  · cases h
  · split at h
    · cases h
    · exact kind_of_ok h

theorem mkTextual_kind {cls : Str} {v : PyVal} {val : Val} (h : mkTextual cls v = .ok val) : val.kind = cls := by
  unfold mkTextual at h
  split at h
  · exact kind_of_ok h
  · cases h

theorem mkInt_kind {cls : Str} {v : PyVal} {val : Val} (h : mkInt cls v = .ok val) : val.kind = cls := by
  unfold mkInt at h
  split at h
  · exact kind_of_ok h
  · cases h

theorem mkBoolean_kind {cls : Str} {v : PyVal} {val : Val} (h : mkBoolean cls v = .ok val) : val.kind = cls := by
  unfold mkBoolean at h
  split at h
  · exact kind_of_ok h
  · cases h

theorem mkFloat_kind {cls : Str} {v : PyVal} {val : Val} (h : mkFloat cls v = .ok val) : val.kind = cls := by
  unfold mkFloat at h
  split at h
  · exact kind_of_ok h
  · cases h

theorem mkGeo_kind {cls : Str} {v : PyVal} {val : Val} (h : mkGeo cls v = .ok val) : val.kind = cls := by
  unfold mkGeo at h
  split at h
  · exact kind_of_ok h
  · split at h <;> cases h
  · cases h

theorem mkPeriod_kind {cls : Str} {v : PyVal} {val : Val} (h : mkPeriod cls v = .ok val) : val.kind = cls := by
  unfold mkPeriod at h
  split at h
  · split at h
    · exact kind_of_ok h
    · cases h
  all_goals cases h

theorem mkUTCOffset_kind {cls : Str} {v : PyVal} {val : Val} (h : mkUTCOffset cls v = .ok val) : val.kind = cls := by
  unfold mkUTCOffset at h
  split at h
  · exact kind_of_ok h
  · cases h

theorem mkRecur_kind {cls : Str} {v : PyVal} {val : Val} (h : mkRecur cls v = .ok val) : val.kind = cls := by
  unfold mkRecur at h
  split at h
  · exact kind_of_ok h
  · cases h

theorem mkCategory1_kind {cls : Str} {v : PyVal} {val : Val} (h : mkCategory1 cls v = .ok val) : val.kind = cls := by
  unfold mkCategory1 at h
  split at h
  · cases h
  · cases h
  · split at h
    · exact kind_of_ok h
    · cases h

/-- a value built by a class constructor is an instance of that class -/
theorem construct1_kind {cls : Str} {v : PyVal} {val : Val} (h : construct1 cls v = .ok val) : val.kind = cls := by
  unfold construct1 at h
  -- one branch per step: `split at h` would simplify the whole remaining chain each time
  refine of_ite_eq h (fun _ => mkTextual_kind) fun _ h => ?_
  refine of_ite_eq h (fun _ => mkInt_kind) fun _ h => ?_
  refine of_ite_eq h (fun _ => mkBoolean_kind) fun _ h => ?_
  refine of_ite_eq h (fun _ => mkFloat_kind) fun _ h => ?_
  refine of_ite_eq h (fun _ => mkGeo_kind) fun _ h => ?_
  refine of_ite_eq h (fun hc h => by rw [mkDDD_kind h]; exact (eq_of_beq hc).symm) fun _ h => ?_
  refine of_ite_eq h (fun hc h => by rw [mkDDDLists_kind h]; exact (eq_of_beq hc).symm) fun _ h => ?_
  refine of_ite_eq h (fun _ => mkPeriod_kind) fun _ h => ?_
  refine of_ite_eq h (fun _ => mkUTCOffset_kind) fun _ h => ?_
  refine of_ite_eq h (fun _ => mkRecur_kind) fun _ h => ?_
  refine of_ite_eq h (fun _ => mkCategory1_kind) fun _ h => ?_
  cases h

def Stored.vals : Stored → List Val
  | .one v => [v]
  | .many vs => vs

def Stored.isMany : Stored → Bool
  | .one _ => false
  | .many _ => true

theorem length_flatMap_vals {ss : List Stored} (hs : ∀ s ∈ ss, s.isMany = false) :
    (ss.flatMap Stored.vals).length = ss.length := by
  induction ss with
  | nil => rfl
  | cons s rest ih =>
    have := hs s List.mem_cons_self
    cases s with
    | one v => simp [Stored.vals, ih fun s hs' => hs s (List.mem_cons_of_mem _ hs')]
    | many vs => simp [Stored.isMany] at this

/-- replace every element `p` holds of by `new`, or append `new` when there is none: what `setEntry` does with the
    entries and `Params.put` with the parameters -/
def upsert {α : Type} (p : α → Bool) (new : α) (l : List α) : List α :=
  if l.any p then l.map (fun e => if p e then new else e) else l ++ [new]

section
variable {α : Type} {p : α → Bool} {new : α}

theorem not_of_any_false {l : List α} (h : ¬ l.any p = true) : ∀ e ∈ l, p e = false := by
  intro e he
  cases hb : p e with
  | false => rfl
  | true => exact absurd (List.any_eq_true.mpr ⟨e, he, hb⟩) h

theorem find_upsert_same (hp : p new = true) (l : List α) : (upsert p new l).find? p = some new := by
  unfold upsert
  split
  · rename_i h
    induction l with
    | nil => simp at h
    | cons a as ih =>
      cases ha : p a with
      | true => simp only [List.map_cons, ha, if_true, List.find?_cons, hp]
      | false =>
        simp only [List.map_cons, ha, Bool.false_eq_true, if_false, List.find?_cons]
        exact ih (by simpa [List.any, ha] using h)
  · rename_i h
    rw [List.find?_append, List.find?_eq_none.mpr (by intro e he; simp [not_of_any_false h e he])]
    simp [List.find?, hp]

theorem find_upsert_other {q : α → Bool} (hq : q new = false) (hpq : ∀ e, p e = true → q e = false) (l : List α) :
    (upsert p new l).find? q = l.find? q := by
  unfold upsert
  split
  · rename_i h
    clear h
    induction l with
    | nil => rfl
    | cons a as ih =>
      cases ha : p a with
      | true => simp only [List.map_cons, ha, if_true, List.find?_cons, hq, hpq a ha, ih]
      | false => simp only [List.map_cons, ha, Bool.false_eq_true, if_false, List.find?_cons, ih]
  · rw [List.find?_append]
    simp [List.find?, hq]

theorem mem_upsert {l : List α} {e : α} (h : e ∈ upsert p new l) : e = new ∨ (e ∈ l ∧ p e = false) := by
  unfold upsert at h
  split at h
  · obtain ⟨a, ha, rfl⟩ := List.mem_map.mp h
    cases hpa : p a with
    | true => left; simp
    | false => right; simpa [hpa] using ha
  · rename_i hn
    rcases List.mem_append.mp h with h | h
    · exact Or.inr ⟨h, not_of_any_false hn e h⟩
    · exact Or.inl (List.mem_singleton.mp h)

theorem map_upsert {β : Type} (g : α → β) (hg : ∀ e, p e = true → g e = g new) (l : List α) :
    (upsert p new l).map g = if l.any p then l.map g else l.map g ++ [g new] := by
  unfold upsert
  split
  · rw [List.map_map]
    apply List.map_congr_left
    intro e _
    cases he : p e with
    | true => simp [he, hg e he]
    | false => simp [he]
  · simp

end

theorem setEntry_eq (props : List Entry) (k : Str) (il : Bool) (vs : List Val) :
    setEntry props k il vs = upsert (fun e => e.name == k) ⟨k, il, vs⟩ props := rfl

theorem put_eq (ps : Params) (k : Str) (x : PVal) : Params.put ps k x = upsert (fun kv => kv.1 == k) (k, x) ps := rfl

theorem find_setEntry_same (props : List Entry) (k : Str) (il : Bool) (vs : List Val) :
    (setEntry props k il vs).find? (fun e => e.name == k) = some ⟨k, il, vs⟩ := by
  rw [setEntry_eq]; exact find_upsert_same (by simp) props

theorem find_setEntry_other (props : List Entry) (k k' : Str) (il : Bool) (vs : List Val) (hk : k' ≠ k) :
    (setEntry props k il vs).find? (fun e => e.name == k') = props.find? (fun e => e.name == k') := by
  rw [setEntry_eq]
  exact find_upsert_other (p := fun e : Entry => e.name == k) (q := fun e => e.name == k')
    (beq_eq_false_iff_ne.mpr (Ne.symm hk)) (fun e he => beq_eq_false_iff_ne.mpr (by rw [eq_of_beq he]; exact Ne.symm hk)) props

theorem get_put_same (ps : Params) (k : Str) (x : PVal) : Params.get? (Params.put ps k x) k = some x := by
  unfold Params.get?
  rw [put_eq, find_upsert_same (by simp)]
  rfl

theorem hasKey_eq_find (props : List Entry) (k : Str) :
    hasKey props k = (props.find? (fun e => e.name == k)).isSome := List.isSome_find?.symm

theorem accumulate_eq (props : List Entry) (k : Str) (s : Stored) :
    accumulate props k s = setEntry props k (hasKey props k || s.isMany) (valuesOf props k ++ s.vals) := by
  unfold accumulate valuesOf
  rw [hasKey_eq_find]
  cases props.find? (fun e => e.name == k) <;> cases s <;> rfl

theorem find_accumulate_same (props : List Entry) (k : Str) (s : Stored) :
    (accumulate props k s).find? (fun e => e.name == k) =
      some ⟨k, hasKey props k || s.isMany, valuesOf props k ++ s.vals⟩ := by
  rw [accumulate_eq]; exact find_setEntry_same _ _ _ _

theorem find_accumulate_other (props : List Entry) (k k' : Str) (s : Stored) (hk : k' ≠ k) :
    (accumulate props k s).find? (fun e => e.name == k') = props.find? (fun e => e.name == k') := by
  rw [accumulate_eq]; exact find_setEntry_other _ _ _ _ _ hk

theorem valuesOf_accumulate (props : List Entry) (k : Str) (s : Stored) :
    valuesOf (accumulate props k s) k = valuesOf props k ++ s.vals := by
  show (match (accumulate props k s).find? (fun e => e.name == k) with | some e => e.vals | none => []) = _
  rw [find_accumulate_same]

theorem isListOf_accumulate (props : List Entry) (k : Str) (s : Stored) :
    isListOf (accumulate props k s) k = (hasKey props k || s.isMany) := by
  show (match (accumulate props k s).find? (fun e => e.name == k) with | some e => e.isList | none => false) = _
  rw [find_accumulate_same]

theorem hasKey_accumulate (props : List Entry) (k : Str) (s : Stored) : hasKey (accumulate props k s) k = true := by
  rw [hasKey_eq_find, find_accumulate_same]; rfl

theorem valuesOf_accumulate_other (props : List Entry) (k k' : Str) (s : Stored) (hk : k' ≠ k) :
    valuesOf (accumulate props k s) k' = valuesOf props k' := by
  unfold valuesOf; rw [find_accumulate_other _ _ _ _ hk]

theorem isListOf_accumulate_other (props : List Entry) (k k' : Str) (s : Stored) (hk : k' ≠ k) :
    isListOf (accumulate props k s) k' = isListOf props k' := by
  unfold isListOf; rw [find_accumulate_other _ _ _ _ hk]

/-- repeated `add` of one name -/
def addAll (props : List Entry) (k : Str) (ss : List Stored) : List Entry :=
  ss.foldl (fun p s => accumulate p k s) props

theorem valuesOf_addAll (ss : List Stored) : ∀ (props : List Entry) (k : Str),
    valuesOf (addAll props k ss) k = valuesOf props k ++ ss.flatMap Stored.vals := by
  induction ss with
  | nil => intro props k; simp [addAll]
  | cons s ss ih =>
    intro props k
    show valuesOf (addAll (accumulate props k s) k ss) k = _
    rw [ih, valuesOf_accumulate]; simp

theorem valuesOf_addAll_other (ss : List Stored) : ∀ (props : List Entry) (k k' : Str), k' ≠ k →
    valuesOf (addAll props k ss) k' = valuesOf props k' := by
  induction ss with
  | nil => intro props k k' _; rfl
  | cons s ss ih =>
    intro props k k' hk
    show valuesOf (addAll (accumulate props k s) k ss) k' = _
    rw [ih _ _ _ hk, valuesOf_accumulate_other _ _ _ _ hk]

theorem isListOf_addAll (ss : List Stored) : ∀ (props : List Entry) (k : Str), ss ≠ [] →
    isListOf (addAll props k ss) k = (hasKey props k || decide (2 ≤ ss.length) || ss.any Stored.isMany) := by
  induction ss with
  | nil => intro _ _ h; exact absurd rfl h
  | cons s ss ih =>
    intro props k _
    show isListOf (addAll (accumulate props k s) k ss) k = _
    cases ss with
    | nil =>
      show isListOf (accumulate props k s) k = _
      rw [isListOf_accumulate]; simp
    | cons s2 rest =>
      rw [ih _ _ (by simp), hasKey_accumulate]
      simp

theorem get_cons_same (k : Str) (v : PVal) (rest : Params) : Params.get? ((k, v) :: rest) k = some v := by
  simp [Params.get?, List.find?]

theorem get_cons_other (k k' : Str) (v : PVal) (rest : Params) (h : (k == k') = false) :
    Params.get? ((k, v) :: rest) k' = Params.get? rest k' := by
  simp [Params.get?, List.find?, h]

theorem uniformValue_all (x : PVal) : ∀ (l : List (Option PVal)), l ≠ [] → (∀ y ∈ l, y = some x) →
    uniformValue l = some x := by
  intro l hne hall
  cases l with
  | nil => exact absurd rfl hne
  | cons a rest =>
    have hr : rest.all (fun y => y == some x) = true :=
      List.all_eq_true.mpr fun y hy => by simp [hall y (List.mem_cons_of_mem _ hy)]
    simp [uniformValue, hall a List.mem_cons_self, hr]

theorem uniformValue_none_head (rest : List (Option PVal)) : uniformValue (none :: rest) = none := by
  simp [uniformValue]

theorem kVALUE_ne_kTZID : (kVALUE == kTZID) = false := by decide +kernel

theorem listParams_value (vs : List Val) (x : PVal) (hne : vs ≠ [])
    (h : ∀ v ∈ vs, Params.get? v.params kVALUE = some x) : Params.get? (listParams vs) kVALUE = some x := by
  unfold listParams
  rw [uniformValue_all x (vs.map (fun v => Params.get? v.params kVALUE)) (by simpa using hne)
    (by intro y hy; obtain ⟨v, hv, rfl⟩ := List.mem_map.mp hy; exact h v hv)]
  exact get_cons_same _ _ _

theorem lastTzid_all (vs : List Val) (z : PVal) (hne : vs ≠ [])
    (h : ∀ v ∈ vs, Params.get? v.params kTZID = some z) : lastTzid vs = some z := by
  unfold lastTzid
  have hr : vs.reverse ≠ [] := by simpa using hne
  cases hrev : vs.reverse with
  | nil => exact absurd hrev hr
  | cons a rest =>
    have ha : a ∈ vs := by
      have : a ∈ vs.reverse := by rw [hrev]; exact List.mem_cons_self
      simpa using this
    simp [List.findSome?, h a ha]

theorem listParams_tzid (vs : List Val) (z : PVal) (hne : vs ≠ []) (ht : truthy z = true)
    (h : ∀ v ∈ vs, Params.get? v.params kTZID = some z) : Params.get? (listParams vs) kTZID = some z := by
  unfold listParams
  rw [lastTzid_all vs z hne h]
  simp only [ht, if_true]
  split
  · rw [List.cons_append, get_cons_other _ _ _ _ kVALUE_ne_kTZID]; exact get_cons_same _ _ _
  · exact get_cons_same _ _ _

theorem get_value_tzid (x y : PVal) : Params.get? [(kVALUE, x), (kTZID, y)] kVALUE = some x ∧
    Params.get? [(kVALUE, x), (kTZID, y)] kTZID = some y :=
  ⟨get_cons_same _ _ _, by rw [get_cons_other _ _ _ _ kVALUE_ne_kTZID]; exact get_cons_same _ _ _⟩

section
variable {t : DT} {z : Str} (hz : t.tzid = some z) (hne : z ≠ UTC)
include hz hne

theorem isUtc_zoned : t.isUtc = false := by
  unfold DT.isUtc
  rw [hz]
  exact beq_eq_false_iff_ne.mpr fun h => hne (Option.some.inj h)

theorem tzParamDDD_zoned : tzParamDDD t = [(kTZID, .one z)] := by
  unfold tzParamDDD
  rw [hz]
  exact if_pos (bne_iff_ne.mpr hne)

theorem tzParamTruthy_zoned (hne' : z ≠ []) : tzParamTruthy t = [(kTZID, .one z)] := by
  unfold tzParamTruthy
  rw [hz]
  cases z with
  | nil => exact absurd rfl hne'
  | cons _ _ => exact if_pos (by simpa using hne)

end

theorem encodeOne_nil (n : Str) (v : PyVal) (hv : keptTyped v = none) :
    encodeOne n v [] = construct1 (forProperty n) v := by
  unfold encodeOne
  rw [hv]
  cases construct1 (forProperty n) v <;> rfl

theorem dt_rfcType (t : DT) : (valueKind (.atom (.dt t))).rfcType = some .dateTime := by
  simp only [valueKind, PyAtom.kind, DT.kind]
  split
  · rfl
  · split <;> rfl

theorem kind_date_inv (v : PyVal) (h : (valueKind v).rfcType = some .date) : ∃ d, v = .atom (.date d) := by
  cases v with
  | atom a =>
    cases a with
    | date d => exact ⟨d, rfl⟩
    | dt t => rw [dt_rfcType] at h; cases h
    | _ => cases h
  | _ => cases h

theorem kind_binary_inv (v : PyVal) (h : (valueKind v).rfcType = some .binary) : ∃ b, v = .binary b := by
  cases v with
  | binary b => exact ⟨b, rfl⟩
  | atom a =>
    cases a with
    | dt t => rw [dt_rfcType] at h; cases h
    | _ => cases h
  | _ => cases h

/- The three dispatches in one declaration: the class constants are string literals, decoded once per declaration. -/
theorem construct1_consts (v : PyVal) : construct1 cDDD v = mkDDD v ∧
    construct1 cDDDLists v = mkDDDLists (.one v) ∧ construct1 cPeriod v = mkPeriod cPeriod v := ⟨rfl, rfl, rfl⟩

theorem construct1_cDDD (v : PyVal) : construct1 cDDD v = mkDDD v := (construct1_consts v).1
theorem construct1_cDDDLists (v : PyVal) : construct1 cDDDLists v = mkDDDLists (.one v) := (construct1_consts v).2.1
theorem construct1_cPeriod (v : PyVal) : construct1 cPeriod v = mkPeriod cPeriod v := (construct1_consts v).2.2

/-- One sweep over the RFC table for everything C02 asks of a row: the two lookups behind `forProperty` are the dear part
    and are made once per row. -/
theorem rfc5545_rows : ∀ r ∈ rfc5545Props,
    (keyType (typeKey r.name) = some r.default ∧ r.default ∈ classTypes (forProperty r.name)) ∧
    (∀ τ ∈ r.alts, τ ≠ .binary → τ ∈ classTypes (forProperty r.name)) ∧
    (∀ τ ∈ r.alts, r.name ≠ nTRIGGER → τ ≠ .period →
      (τ = .date ∧ (forProperty r.name = cDDD ∨ forProperty r.name = cDDDLists)) ∨ τ = .binary) := by
  decide +kernel

/-- the elements of a list of dates / datetimes / durations / times as vDDDLists holds them -/
def atomVals (as : List PyAtom) : List Val := as.map (fun a => ⟨cDDD, atomText a, atomParams a⟩)
def periodVals (ps : List (PyAtom × PyAtom)) : List Val :=
  ps.map (fun p => ⟨cDDD, (Enc.periodText p.1 p.2).getD toIcalError, periodParamsDDD p.1⟩)

theorem mapRes_mkDDD_atoms (as : List PyAtom) : mapRes mkDDD (as.map PyVal.atom) = .ok (atomVals as) := by
  induction as with
  | nil => rfl
  | cons a as ih => simp only [List.map, mapRes, mkDDD, ih, atomVals]

theorem mapRes_mkDDD_periods (ps : List (PyAtom × PyAtom)) :
    mapRes mkDDD (ps.map (fun p => PyVal.period p.1 p.2)) = .ok (periodVals ps) := by
  induction ps with
  | nil => rfl
  | cons a as ih => simp only [List.map, mapRes, mkDDD, ih, periodVals]

/-- A list under RDATE / EXDATE is ONE vDDDLists value (not split element by element). -/
theorem add_list (n : Str) (hc : forProperty n = cDDDLists) (hl : Gen.addListNames.contains (lower n) = true)
    {xs : List PyVal} {vs : List Val} (h : mapRes mkDDD xs = .ok vs) :
    addValue n (.list xs) [] = .ok (.one ⟨cDDDLists, listText vs, listParams vs⟩) := by
  simp only [addValue, forceUtc, hl, if_true, encodeWhole, hc]
  have : construct cDDDLists (.list xs) = mkDDDLists (.list xs) := rfl
  rw [this]
  simp only [mkDDDLists, listElems, h, mergeParams, List.foldl, Except.map]

theorem buildList_length : ∀ (subs : List Spec) (cs : List Comp) (o : List Outcome),
    buildList subs = some (cs, o) → cs.length = subs.length := by
  intro subs
  induction subs with
  | nil => intro cs o h; unfold buildList at h; cases h; rfl
  | cons s ss ih =>
    intro cs o h
    unfold buildList at h
    split at h
    · rename_i c o1 cs' os h1 h2
      cases h
      simp [ih cs' os h2]
    · cases h

/-! ## built trees lie in the domain of C01 (`WF`) -/

theorem forProperty_upper (n : Str) : forProperty (upper n) = forProperty n := by
  unfold forProperty; rw [upper_idem]

theorem mem_setEntry (props : List Entry) (k : Str) (il : Bool) (vs : List Val) (e : Entry)
    (h : e ∈ setEntry props k il vs) : e = ⟨k, il, vs⟩ ∨ (e ∈ props ∧ (e.name == k) = false) :=
  mem_upsert (by rwa [setEntry_eq] at h)

theorem names_setEntry_nodup (props : List Entry) (k : Str) (il : Bool) (vs : List Val)
    (h : (props.map (·.name)).Nodup) : ((setEntry props k il vs).map (·.name)).Nodup := by
  rw [setEntry_eq, map_upsert (p := fun e : Entry => e.name == k) (·.name) (fun e he => eq_of_beq he)]
  split
  · exact h
  · rename_i hn
    simp only [List.nodup_append, h, true_and, List.mem_map, List.mem_singleton]
    refine ⟨by simp, ?_⟩
    rintro _ ⟨e, he, rfl⟩ _ rfl
    simpa using not_of_any_false hn e he

/-- the decoder that accepts every text: `PropsOK decAny` is the part of C01's domain that `add` alone maintains -/
def decAny : Dec := fun _ t _ => some t

theorem valuesOf_propsOK {props : List Entry} (h : PropsOK decAny props) (k : Str) :
    hasKey props k = decide (1 ≤ (valuesOf props k).length) ∧ ∀ w ∈ valuesOf props k, w.kind = forProperty k := by
  rw [hasKey_eq_find]
  unfold valuesOf
  cases hf : props.find? (fun e => e.name == k) with
  | none => exact ⟨rfl, fun _ hw => by cases hw⟩
  | some old =>
    obtain ⟨_, hne, _, hkinds⟩ := h.2 old (List.mem_of_find?_eq_some hf)
    have hname : old.name = k := eq_of_beq (by simpa using List.find?_some hf)
    refine ⟨?_, fun w hw => hname ▸ (hkinds w hw).1⟩
    simp
    exact List.length_pos_iff.mpr hne

theorem propsOK_accumulate (props : List Entry) (k : Str) (v : Val) (h : PropsOK decAny props)
    (hk : NameOK k) (hv : v.kind = forProperty k) : PropsOK decAny (accumulate props k (.one v)) := by
  rw [accumulate_eq]
  simp only [Stored.isMany, Stored.vals, Bool.or_false]
  obtain ⟨hh, hkinds⟩ := valuesOf_propsOK h k
  refine ⟨names_setEntry_nodup _ _ _ _ h.1, fun e he => ?_⟩
  rcases mem_setEntry _ _ _ _ _ he with rfl | ⟨he', _⟩
  · refine ⟨hk, by simp, ?_, fun w hw => ⟨?_, rfl⟩⟩
    · rw [hh]; simp
    · rcases List.mem_append.mp hw with hw | hw
      · exact hkinds w hw
      · rw [List.mem_singleton.mp hw]; exact hv
  · exact h.2 e he'

theorem forceUtc_one (n : Str) (v : PyVal) (hv : keptTyped v = none) :
    ∃ v', forceUtc n (.one v) = .one v' ∧ keptTyped v' = none := by
  unfold forceUtc
  split
  · split
    · exact ⟨_, rfl, rfl⟩
    · exact ⟨v, rfl, hv⟩
  · exact ⟨v, rfl, hv⟩

theorem encodeOne_kind (n : Str) (v : PyVal) (upd : List (Str × Option PVal)) (val : Val)
    (hv : keptTyped v = none) (h : encodeOne n v upd = .ok val) : val.kind = forProperty n := by
  unfold encodeOne at h
  rw [hv] at h
  simp only at h
  split at h
  · rename_i o hc
    cases h
    exact construct1_kind (val := o) hc
  · cases h

theorem addValue_one_kind (n : Str) (v : PyVal) (upd : List (Str × Option PVal)) (s : Stored)
    (hv : keptTyped v = none) (h : addValue n (.one v) upd = .ok s) :
    ∃ val, s = .one val ∧ val.kind = forProperty n := by
  obtain ⟨v', hf, hv'⟩ := forceUtc_one n v hv
  unfold addValue at h
  rw [hf] at h
  simp only [Except.map] at h
  split at h
  · cases h
  · rename_i val he
    cases h
    exact ⟨val, rfl, encodeOne_kind n v' upd val hv' he⟩

/-- calls of `add(name, value, parameters)` with one not-yet-typed value under a name the C01
    domain admits -/
def ScalarAdd : Op → Prop
  | .add n (.one v) _ => keptTyped v = none ∧ NameOK (upper n)
  | _ => False

instance (op : Op) : Decidable (ScalarAdd op) := by
  cases op with
  | add n a upd =>
    cases a with
    | one v => unfold ScalarAdd; infer_instance
    | list xs => unfold ScalarAdd; infer_instance
  | _ => unfold ScalarAdd; infer_instance

theorem runOps_invariant (comp : Str) (P : List Entry → Prop) : ∀ (ops : List Op) (props props' : List Entry)
    (outs : List Outcome), (∀ op ∈ ops, ∀ p p1, P p → applyOp comp p op = .ok p1 → P p1) → P props →
    runOps comp props ops = some (props', outs) → P props' := by
  intro ops
  induction ops with
  | nil =>
    intro props props' outs _ hp h
    unfold runOps at h; cases h; exact hp
  | cons op ops ih =>
    intro props props' outs hall hp h
    have hrest : ∀ o ∈ ops, ∀ p p1, P p → applyOp comp p o = .ok p1 → P p1 :=
      fun o ho => hall o (List.mem_cons_of_mem _ ho)
    -- whichever branch was taken, the rest ran from a mapping `q` with `P q` and ended in `props'`
    have tail : ∀ (q : List Entry) (o : Outcome), P q →
        (runOps comp q ops).map (fun r => (r.1, o :: r.2)) = some (props', outs) → P props' := by
      intro q o hq hm
      obtain ⟨r, hr, hm⟩ := Option.map_eq_some_iff.mp hm
      cases hm
      exact ih q r.1 r.2 hrest hq hr
    unfold runOps at h
    split at h
    · rename_i p1 h1
      exact tail p1 _ (hall op List.mem_cons_self props p1 hp h1) h
    · exact tail props _ hp h
    · exact tail props _ hp h
    · cases h

theorem propsOK_runOps (comp : Str) (ops : List Op) (props props' : List Entry) (outs : List Outcome)
    (hall : ∀ op ∈ ops, ScalarAdd op) (hp : PropsOK decAny props) (h : runOps comp props ops = some (props', outs)) :
    PropsOK decAny props' := by
  refine runOps_invariant comp (PropsOK decAny) ops props props' outs (fun op hop p p1 hp h1 => ?_) hp h
  have hop := hall op hop
  cases op with
  | add n a upd =>
    cases a with
    | list xs => exact absurd hop (by simp [ScalarAdd])
    | one v =>
      obtain ⟨hv, hn⟩ := hop
      simp only [applyOp, addProp, Except.map] at h1
      split at h1
      · cases h1
      · rename_i s ha
        cases h1
        obtain ⟨val, rfl, hk⟩ := addValue_one_kind n v upd s hv ha
        exact propsOK_accumulate p (upper n) val hp hn (by rw [forProperty_upper]; exact hk)
  | _ => exact absurd hop (by simp [ScalarAdd])

mutual
/-- component names as C01's domain wants them, scalar adds only -/
def ScalarSpec : Spec → Prop
  | .mk name ops subs => upper name = name ∧ escapeChar name = name ∧ (∀ op ∈ ops, ScalarAdd op) ∧ ScalarSpecs subs
def ScalarSpecs : List Spec → Prop
  | [] => True
  | s :: ss => ScalarSpec s ∧ ScalarSpecs ss
end

mutual
/-- every value of the tree is a fixpoint of the decoder the parser will call for it -/
def DecFix (dec : Dec) : Comp → Prop
  | .mk _ props subs =>
    (∀ e ∈ props, ∀ v ∈ e.vals, dec (forProperty e.name) v.text (tzArg e.name v.params) = some v.text) ∧ DecFixs dec subs
def DecFixs (dec : Dec) : List Comp → Prop
  | [] => True
  | c :: cs => DecFix dec c ∧ DecFixs dec cs
end

mutual
theorem build_wf (dec : Dec) : ∀ (s : Spec) (t : Comp) (o : List Outcome),
    ScalarSpec s → build s = some (t, o) → DecFix dec t → WF dec t
  | .mk name ops subs, t, o, hs, hb, hd => by
    unfold ScalarSpec at hs
    obtain ⟨h1, h2, h3, h4⟩ := hs
    unfold build at hb
    split at hb
    · rename_i props out cs outs hr hl
      cases hb
      unfold DecFix at hd
      unfold WF
      have hshape := propsOK_runOps name ops [] props out h3 ⟨List.nodup_nil, fun _ h => by cases h⟩ hr
      refine ⟨h1, h2, ⟨hshape.1, ?_⟩, buildList_wf dec subs cs outs h4 hl hd.2⟩
      intro e he
      obtain ⟨a, b, c, d⟩ := hshape.2 e he
      exact ⟨a, b, c, fun v hv => ⟨(d v hv).1, hd.1 e he v hv⟩⟩
    · cases hb
theorem buildList_wf (dec : Dec) : ∀ (ss : List Spec) (cs : List Comp) (o : List Outcome),
    ScalarSpecs ss → buildList ss = some (cs, o) → DecFixs dec cs → WFs dec cs
  | [], cs, o, _, hb, _ => by
    unfold buildList at hb; cases hb; unfold WFs; trivial
  | s :: ss, cs, o, hs, hb, hd => by
    unfold ScalarSpecs at hs
    unfold buildList at hb
    split at hb
    · rename_i c o1 cs' os h1 h2
      cases hb
      unfold DecFixs at hd
      unfold WFs
      exact ⟨build_wf dec s c o1 hs.1 h1 hd.1, buildList_wf dec ss cs' os hs.2 h2 hd.2⟩
    · cases hb
end

end ICal.Enc
