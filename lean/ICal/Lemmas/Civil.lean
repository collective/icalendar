/-
  The proleptic Gregorian day count of ICal/Model/Zoned.lean: `ofDays` is a right inverse of `toDays` with
  valid values on the `datetime` range (C11, totality of `ofSec` / `localizeUtc`).  That `toDays` is
  injective on valid dates is not proved and not needed: `ofSec` checks its own answer.

  z = era * 146097 + doe.  The year of era is located by a monotonicity argument:
  `yoeOf` (the closed formula of `ofDays`) is monotone on [0, 146096), and it is evaluated by the
  kernel at the first and last day of each of the 400 years of an era (`yearRows`, 400 rows, which also
  give the length of each year); so it is the right year on every day in between.  The month and day of
  month come from a 366-row table (`doyRows`).  The era bookkeeping (year = yoe + 400 * era, leap rule
  modulo 400) is linear arithmetic, with `yearStart` an atom for `omega`.
  Only `decide +kernel` on these two small tables and omega.
-/
import ICal.Model.Zoned
import ICal.Lemmas.Codec
namespace ICal.Zoned
open ICal

/-- year of era of a day of era: the closed formula of `ofDays` -/
def yoeOf (doe : Nat) : Nat := (doe - doe / 1460 + doe / 36524 - doe / 146096) / 365
/-- first day of era (counted from March 1) of a year of era -/
def yearStart (yoe : Nat) : Nat := 365 * yoe + yoe / 4 - yoe / 100
/-- month (March = 0) of a day of year -/
def mpOf (doy : Nat) : Nat := (5 * doy + 2) / 153
/-- first day of year of a month (March = 0) -/
def monthStart (mp : Nat) : Nat := (153 * mp + 2) / 5
/-- calendar month of a March-based month -/
def monthOf (mp : Nat) : Nat := if mp < 10 then mp + 3 else mp - 9

theorem toDays_eq (y m d : Nat) :
    toDays y m d = (if m ≤ 2 then y - 1 else y) / 400 * 146097 +
      (yearStart ((if m ≤ 2 then y - 1 else y) % 400) +
        (monthStart (if m > 2 then m - 3 else m + 9) + d - 1)) := by
  unfold toDays yearStart monthStart
  simp only [Nat.mul_comm 365]

theorem yoeOf_mono (a b : Nat) (hab : a ≤ b) (hb : b < 146096) : yoeOf a ≤ yoeOf b := by
  unfold yoeOf
  rw [Nat.div_eq_of_lt hb, Nat.div_eq_of_lt (Nat.lt_of_le_of_lt hab hb)]
  have h1 : a - a / 1460 ≤ b - b / 1460 := by omega
  exact Nat.div_le_div_right (Nat.add_le_add h1 (Nat.div_le_div_right hab))

/-- the year table, for each of the 400 years of an era.  The formula is right on its first and on its last
    day: with monotonicity this pins the year of every day in between (`yoeOf_spec`).  It starts
    365 y + (0 .. 96) days into the era: the bound on day numbers that `yoeOf_mono` and `toDays_range` need.
    It has at most 366 days, and when it has 366 the NEXT calendar year (the one its January and February
    belong to) is a leap year: day of year < 366, and day 365 is a valid February 29 (`ofDays_valid`). -/
theorem yearRows : ∀ y, y < 400 →
    yoeOf (yearStart y) = y ∧ yoeOf (yearStart (y + 1) - 1) = y ∧
    365 * y ≤ yearStart y ∧ yearStart y ≤ 365 * y + 96 ∧ yearStart (y + 1) ≤ yearStart y + 366 ∧
    (yearStart (y + 1) = yearStart y + 366 → isLeap (y + 1) = true) := by
  decide +kernel

/-- the closed formula finds the year: `doe` is one of the 365 or 366 days from `yearStart yoe` on, and
    when it is the 366th the next calendar year is a leap year.  (`yearStart 400` is 146096, one short of
    the era: the formula has no `+ yoe / 400`; the last day of the era is the 366th day of year 399.) -/
theorem yoeOf_spec (doe : Nat) (h : doe < 146097) :
    yoeOf doe < 400 ∧ yearStart (yoeOf doe) ≤ doe ∧ doe - yearStart (yoeOf doe) < 366 ∧
    (doe - yearStart (yoeOf doe) = 365 → isLeap (yoeOf doe + 1) = true) := by
  by_cases hlast : doe = 146096
  · subst hlast; decide
  · have hd : doe < 146096 := by omega
    have h399 : yoeOf doe ≤ 399 := yoeOf_mono doe 146095 (by omega) (by decide)
    generalize hy : yoeOf doe = yoe at h399 ⊢
    have hlow : yearStart yoe ≤ doe := by
      -- otherwise doe lies on or before the last day of the previous year
      apply Nat.le_of_not_lt
      intro hc
      cases yoe with
      | zero => exact Nat.not_lt_zero _ hc
      | succ k =>
        have hrow := (yearRows k (by omega)).2.1
        have hs := (yearRows (k + 1) (Nat.lt_succ_of_le h399)).2.2.2.1
        have := yoeOf_mono doe (yearStart (k + 1) - 1) (by omega) (by omega)
        omega
    have hhigh : doe < yearStart (yoe + 1) := by
      apply Nat.lt_of_not_le
      intro hc
      by_cases htop : yoe = 399
      · subst htop
        exact Nat.lt_irrefl _ (Nat.lt_of_le_of_lt hc hd)
      · have hrow := (yearRows (yoe + 1) (by omega)).1
        have := yoeOf_mono (yearStart (yoe + 1)) doe hc hd
        omega
    obtain ⟨-, -, -, -, s2, s3⟩ := yearRows yoe (Nat.lt_succ_of_le h399)
    exact ⟨by omega, hlow, by omega, fun h365 => s3 (by omega)⟩

/-- days in a month, the leap status given -/
def dim (leap : Bool) (m : Nat) : Nat :=
  if m == 2 then (if leap then 29 else 28)
  else if m == 4 || m == 6 || m == 9 || m == 11 then 30
  else 31

theorem daysInMonth_eq_dim (y m : Nat) : daysInMonth y m = dim (isLeap y) m := rfl

theorem dim_le (b b' : Bool) (m : Nat) (h : m = 2 → b = true → b' = true) : dim b m ≤ dim b' m := by
  unfold dim
  by_cases hm : m = 2
  · subst hm
    cases b <;> cases b' <;> simp at h ⊢
  · simp [hm]

/-- the day-of-year table: the month is at most 11 (February), January or February exactly from day 306 on, it
    starts on or before the day, the day of month fits the month (the 366th day, doy = 365, is February 29), and
    `toDays` finds the March-based month back -/
theorem doyRows : ∀ doy, doy < 366 → mpOf doy ≤ 11 ∧ (monthOf (mpOf doy) ≤ 2 ↔ 306 ≤ doy) ∧
    monthStart (mpOf doy) ≤ doy ∧
    doy - monthStart (mpOf doy) + 1 ≤ dim (doy == 365) (monthOf (mpOf doy)) ∧
    (if monthOf (mpOf doy) > 2 then monthOf (mpOf doy) - 3 else monthOf (mpOf doy) + 9) = mpOf doy := by
  decide +kernel

/-- the fields of `ofDays z` and what the two tables say about them -/
theorem ofDays_spec (z : Nat) : ∃ yoe doy mp,
    ofDays z = ⟨if monthOf mp ≤ 2 then yoe + z / 146097 * 400 + 1 else yoe + z / 146097 * 400, monthOf mp,
      doy - monthStart mp + 1⟩ ∧
    yoe < 400 ∧ doy + yearStart yoe = z % 146097 ∧ (doy = 365 → isLeap (yoe + 1) = true) ∧
    mp ≤ 11 ∧ (monthOf mp ≤ 2 ↔ 306 ≤ doy) ∧ monthStart mp ≤ doy ∧
    doy - monthStart mp + 1 ≤ dim (doy == 365) (monthOf mp) ∧
    (if monthOf mp > 2 then monthOf mp - 3 else monthOf mp + 9) = mp := by
  obtain ⟨hy, hlo, hdoy, hleap⟩ := yoeOf_spec (z % 146097) (Nat.mod_lt _ (by decide))
  exact ⟨yoeOf (z % 146097), z % 146097 - yearStart (yoeOf (z % 146097)), mpOf _, rfl, hy,
    Nat.sub_add_cancel hlo, hleap, doyRows _ hdoy⟩

/-- `ofDays` is a right inverse of `toDays`, on every day number (year 0 included) -/
theorem toDays_ofDays (z : Nat) : toDays (ofDays z).y (ofDays z).m (ofDays z).d = z := by
  obtain ⟨yoe, doy, mp, he, hy, hs, -, -, -, hq, -, hmp⟩ := ofDays_spec z
  have hyear (c : Prop) [Decidable c] (y : Nat) :
      (if c then (if c then y + 1 else y) - 1 else if c then y + 1 else y) = y := by
    by_cases h : c <;> simp [h]
  simp only [he]
  rw [toDays_eq, hmp, hyear, Nat.add_mul_div_right _ _ (by decide), Nat.div_eq_of_lt hy,
    Nat.add_mul_mod_self_right, Nat.mod_eq_of_lt hy]
  omega

theorem isLeap_add_era (y era : Nat) : isLeap (y + era * 400) = isLeap y := by
  unfold isLeap
  rw [Nat.add_mul_mod_self_right, show era * 400 = era * 100 * 4 by rw [Nat.mul_assoc],
    Nat.add_mul_mod_self_right, show era * 100 * 4 = era * 4 * 100 by rw [Nat.mul_right_comm],
    Nat.add_mul_mod_self_right]

theorem toDays_first : toDays 1 1 1 = 306 := by decide
theorem toDays_end : toDays 10000 1 1 = 3652365 := by decide

theorem ofDays_valid (z : Nat) (h1 : toDays 1 1 1 ≤ z) (h2 : z < toDays 10000 1 1) :
    (ofDays z).valid = true := by
  rw [toDays_first] at h1
  rw [toDays_end] at h2
  obtain ⟨yoe, doy, mp, he, hy, hs, hleap, hmp, h10, -, hd, -⟩ := ofDays_spec z
  have hs0 : yoe = 0 → yearStart yoe = 0 := by rintro rfl; rfl
  have hs399 : yoe = 399 → yearStart yoe = 145731 := by rintro rfl; rfl
  have hm1 : 1 ≤ monthOf mp ∧ monthOf mp ≤ 12 := by unfold monthOf; split <;> omega
  rw [he]
  simp only [PDate.valid, validDate, Bool.and_eq_true, decide_eq_true_iff]
  refine ⟨⟨⟨⟨⟨?_, ?_⟩, hm1.1⟩, hm1.2⟩, Nat.succ_pos _⟩, Nat.le_trans hd ?_⟩
  · -- 1 ≤ year: in era 0 the days from 306 on are in year 1 or later
    clear hd
    split
    · exact Nat.succ_pos _
    · omega
  · -- year ≤ 9999: in era 24 the days before 146037 are before January of year 400 of the era
    clear hd
    split <;> omega
  · rw [daysInMonth_eq_dim]
    apply dim_le
    intro hm2 h365
    rw [if_pos (hm2 ▸ Nat.le_refl 2), Nat.add_right_comm, isLeap_add_era]
    exact hleap (by simpa using h365)

theorem toDays_range (y m d : Nat) (h : validDate y m d = true) :
    toDays 1 1 1 ≤ toDays y m d ∧ toDays y m d < toDays 10000 1 1 := by
  rw [toDays_first, toDays_end, toDays_eq]
  unfold validDate at h
  simp only [Bool.and_eq_true, decide_eq_true_iff] at h
  obtain ⟨⟨⟨⟨⟨hy1, hy2⟩, hm1⟩, hm2⟩, hd1⟩, hd2⟩ := h
  have hd31 := Nat.le_trans hd2 (Codec.daysInMonth_le y m)
  clear hd2
  unfold monthStart
  by_cases hm : m ≤ 2
  · rw [if_pos hm, if_neg (Nat.not_lt.2 hm)]
    have hz := Nat.div_add_mod (y - 1) 400
    obtain ⟨-, -, hs1, hs2, -⟩ := yearRows ((y - 1) % 400) (Nat.mod_lt _ (by decide))
    generalize (y - 1) / 400 = era at *
    generalize (y - 1) % 400 = yoe at *
    generalize yearStart yoe = s at *
    omega
  · rw [if_neg hm, if_pos (Nat.lt_of_not_le hm)]
    have hz := Nat.div_add_mod y 400
    obtain ⟨-, -, hs1, hs2, -⟩ := yearRows (y % 400) (Nat.mod_lt _ (by decide))
    generalize y / 400 = era at *
    generalize y % 400 = yoe at *
    generalize yearStart yoe = s at *
    omega

theorem ofSec_total (n : Int) (h1 : (toDays 1 1 1 * 86400 : Int) ≤ n)
    (h2 : n < (toDays 10000 1 1 * 86400 : Int)) : ∃ w, ofSec n = some w := by
  have hn : ¬ n < 0 := Int.not_lt.2 (Int.le_trans (Int.natCast_nonneg _) h1)
  have hk : ((n.toNat : Nat) : Int) = n := Int.toNat_of_nonneg (Int.not_lt.1 hn)
  rw [← hk] at h1 h2
  have hz1 : toDays 1 1 1 ≤ n.toNat / 86400 := (Nat.le_div_iff_mul_le (by decide)).2 (Int.ofNat_le.1 h1)
  have hz2 : n.toNat / 86400 < toDays 10000 1 1 := (Nat.div_lt_iff_lt_mul (by decide)).2 (Int.ofNat_lt.1 h2)
  have hval := ofDays_valid _ hz1 hz2
  have hinv := toDays_ofDays (n.toNat / 86400)
  unfold ofSec
  rw [if_neg hn]
  refine ⟨_, if_pos ⟨?_, ?_⟩⟩
  · simp only [Wall.valid, hval, Bool.true_and, validTime, Bool.and_eq_true, decide_eq_true_iff]
    exact ⟨⟨Nat.div_lt_of_lt_mul (Nat.mod_lt _ (by decide)), Nat.div_lt_of_lt_mul (Nat.mod_lt _ (by decide))⟩,
      Nat.mod_lt _ (by decide)⟩
  · unfold toSec
    simp only [hinv]
    omega

theorem toSec_range (w : Wall) (hw : w.valid = true) :
    (toDays 1 1 1 * 86400 : Int) ≤ toSec w ∧ toSec w < (toDays 10000 1 1 * 86400 : Int) := by
  simp only [Wall.valid, PDate.valid, validTime, Bool.and_eq_true, decide_eq_true_iff] at hw
  obtain ⟨hd, ⟨hh, hmi⟩, hs⟩ := hw
  obtain ⟨r1, r2⟩ := toDays_range _ _ _ hd
  unfold toSec
  omega

theorem ofSec_spec (n : Int) (w : Wall) (h : ofSec n = some w) : toSec w = n ∧ w.valid = true := by
  unfold ofSec at h
  split at h
  · cases h
  · simp only [] at h
    split at h
    · next hc => injection h with h; subst h; exact ⟨hc.2, hc.1⟩
    · cases h

theorem ofSec_isSome_iff (n : Int) :
    (∃ w, ofSec n = some w) ↔ (toDays 1 1 1 * 86400 : Int) ≤ n ∧ n < (toDays 10000 1 1 * 86400 : Int) := by
  constructor
  · rintro ⟨w, hw⟩
    obtain ⟨hs, hv⟩ := ofSec_spec n w hw
    rw [← hs]
    exact toSec_range w hv
  · exact fun ⟨h1, h2⟩ => ofSec_total n h1 h2

end ICal.Zoned
