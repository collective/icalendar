/-
  Equality of the regenerated delegating methods of `CaselessDict` (ICal/Gen/BodiesCDict.lean,
  tools/py2lean.py: `key = to_unicode(key); [return] super().<m>(key.upper(), ..)`) with the steps of the
  hand model ICal/Model/CDict.lean.  `super().<m>` is a parameter of each translated method; here it is
  given the corresponding step of the plain ordered dict (`od*` of the model; for `setdefault` the
  `OrderedDict.setdefault` that goes back through the subclass methods).  The model's key folding `up`
  is `to_unicode` followed by the translated `.upper()`: `fun k => upper (tu k)` for any `tu`.
-/
import ICal.Gen.BodiesCDict
namespace ICal.Bodies
open ICal ICal.CDict ICal.Gen.BodiesCDict

variable {V : Type} [DecidableEq V]

/-- the model's key folding for a given `to_unicode` -/
def upOf (tu : Str → Str) : Str → Str := fun k => upper (tu k)

def sGetitem (s : Store V) (k : Str) : Store V × Out V := (s, outGetitem s k)
def sSetitem (s : Store V) (k : Str) (v : V) : Store V × Out V := (odSet s k v, .none)
def sDelitem (s : Store V) (k : Str) : Store V × Out V := if odHas s k then (odErase s k, .none) else (s, .err .KeyError)
def sContains (s : Store V) (k : Str) : Store V × Out V := (s, .bool (odHas s k))
def sGet (s : Store V) (k : Str) (d : Option V) : Store V × Out V := (s, outGet s k d)
/-- `OrderedDict.setdefault(self, K, v)` on a CaselessDict: through the subclass `__contains__` / `__getitem__` / `__setitem__` -/
def sSetdefault (up : Str → Str) (s : Store V) (K : Str) (v : V) : Store V × Out V :=
  if cdContains up s K then (s, cdGetitem up s K) else (cdSetitem up s K v, .val v)
def sPop (s : Store V) (k : Str) (d : Option V) : Store V × Out V :=
  match odGet s k with
  | some v => (odErase s k, .val v)
  | none => (s, match d with | some d => .val d | none => .none)
def sMoveToEnd (s : Store V) (k : Str) (last : Bool) : Store V × Out V :=
  match odMoveToEnd s k last with
  | some s' => (s', .none)
  | none => (s, .err .KeyError)

theorem cd_getitem_eq (tu : Str → Str) (s : Store V) (k : Str) :
    cd_getitem tu sGetitem s k = step (upOf tu) s (.getitem k) := rfl

theorem cd_setitem_eq (tu : Str → Str) (s : Store V) (k : Str) (v : V) :
    cd_setitem tu sSetitem s k v = step (upOf tu) s (.setitem k v) := rfl

theorem cd_delitem_eq (tu : Str → Str) (s : Store V) (k : Str) :
    cd_delitem tu sDelitem s k = step (upOf tu) s (.delitem k) := by
  simp only [cd_delitem, sDelitem, step, cdDelitem, upOf, dropResult]
  by_cases h : odHas s (upper (tu k)) = true <;> simp [h]

theorem cd_contains_eq (tu : Str → Str) (s : Store V) (k : Str) :
    cd_contains tu sContains s k = step (upOf tu) s (.contains k) := rfl

theorem cd_has_key_eq (tu : Str → Str) (s : Store V) (k : Str) :
    cd_has_key tu sContains s k = step (upOf tu) s (.hasKey k) := rfl

theorem cd_get_eq (tu : Str → Str) (s : Store V) (k : Str) (d : Option V) :
    cd_get tu sGet s k d = step (upOf tu) s (.get k d) := rfl

theorem cd_setdefault_eq (tu : Str → Str) (s : Store V) (k : Str) (v : V) :
    cd_setdefault tu (sSetdefault (upOf tu)) s k v = step (upOf tu) s (.setdefault k v) := rfl

theorem cd_pop_eq (tu : Str → Str) (s : Store V) (k : Str) (d : Option V) :
    cd_pop tu sPop s k d = step (upOf tu) s (.pop k d) := by
  simp only [cd_pop, sPop, step, cdPop, upOf]
  cases odGet s (upper (tu k)) <;> cases d <;> rfl

theorem cd_popitem_eq (tu : Str → Str) (s : Store V) :
    cd_popitem cdPopitem s = step (upOf tu) s .popitem := rfl

theorem cd_move_to_end_eq (tu : Str → Str) (s : Store V) (k : Str) (last : Bool) :
    cd_move_to_end tu sMoveToEnd s k last = step (upOf tu) s (.moveToEnd k last) := by
  simp only [cd_move_to_end, sMoveToEnd, step, upOf, dropResult]
  cases odMoveToEnd s (upper (tu k)) last <;> rfl

/-- the defaults of the keyword parameters, read from the signatures: `get(key, default=None)`,
    `pop(key, default=None)` (`None` = "no default given" of the model), `move_to_end(key, last=True)` -/
theorem cd_defaults : cd_get_default_default = none ∧ cd_pop_default_default = none ∧ cd_move_to_end_default_last = true :=
  ⟨rfl, rfl, rfl⟩

end ICal.Bodies
