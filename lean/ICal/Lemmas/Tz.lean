/-
  Lemmas for C12 (Model/Tz), in the order of `Timezone.get_transitions` and of what is built on it:
  rounding to the minute; the tuple order of `transitions.sort()` and `sortTr` as the unique sorted
  permutation; `set(transtimes)`; the DST-amount search (`firstStd`, `dstOffset`) and the table
  `infoGo`, with exactly when it fails; `bisect_right` on a sorted table; the RFC reading `specAt`
  as "latest onset not after t"; the hypotheses of the C12 theorems and, under them, what the table
  holds and what `lookup` finds; the name loop; the zone cache on one and on repeated parses.
-/
import ICal.Model.Tz
import ICal.Lemmas.PyStr
namespace ICal.Tz

theorem roundMin_id {x : Int} (h : x % 60 = 0) : roundMin x = x := by
  unfold roundMin; omega

theorem roundMin_near (x : Int) : roundMin x % 60 = 0 ∧ x - 30 < roundMin x ∧ roundMin x ≤ x + 30 := by
  unfold roundMin; omega

theorem roundMin_idem (x : Int) : roundMin (roundMin x) = roundMin x :=
  roundMin_id (roundMin_near x).1

theorem lex_step {x y : Int} {r : Bool} :
    (if x < y then true else if y < x then false else r) = true ↔ x < y ∨ (x = y ∧ r = true) := by
  by_cases h1 : x < y
  · simp [h1]
  · by_cases h2 : y < x
    · rw [if_neg h1, if_pos h2]
      constructor
      · intro h; cases h
      · rintro (h | ⟨h, _⟩) <;> omega
    · have e : x = y := by omega
      simp [e]

/-! One level of a lexicographic order on an `Int` key keeps what the order below it (`R`) has. -/

theorem lex_total {x y : Int} {R R' : Prop} (h : R ∨ R') :
    (x < y ∨ (x = y ∧ R)) ∨ (y < x ∨ (y = x ∧ R')) := by
  rcases Int.lt_trichotomy x y with hlt | heq | hgt
  · exact .inl (.inl hlt)
  · exact h.elim (fun r => .inl (.inr ⟨heq, r⟩)) (fun r => .inr (.inr ⟨heq.symm, r⟩))
  · exact .inr (.inl hgt)

theorem lex_trans {x y z : Int} {R₁ R₂ R₃ : Prop} (h : R₁ → R₂ → R₃)
    (h1 : x < y ∨ (x = y ∧ R₁)) (h2 : y < z ∨ (y = z ∧ R₂)) : x < z ∨ (x = z ∧ R₃) := by
  rcases h1 with h1 | ⟨e1, r1⟩ <;> rcases h2 with h2 | ⟨e2, r2⟩
  · exact .inl (Int.lt_trans h1 h2)
  · exact .inl (e2 ▸ h1)
  · exact .inl (e1 ▸ h2)
  · exact .inr ⟨e1.trans e2, h r1 r2⟩

theorem lex_antisymm {x y : Int} {R R' : Prop} (h1 : x < y ∨ (x = y ∧ R)) (h2 : y < x ∨ (y = x ∧ R')) :
    x = y ∧ R ∧ R' := by
  rcases h1 with h1 | ⟨e1, r1⟩ <;> rcases h2 with h2 | ⟨e2, r2⟩
  · omega
  · omega
  · omega
  · exact ⟨e1, r1, r2⟩

theorem trLe_iff (a b : Tr) : trLe a b = true ↔
    a.loc < b.loc ∨ (a.loc = b.loc ∧ (a.osfrom < b.osfrom ∨ (a.osfrom = b.osfrom ∧
      (a.osto < b.osto ∨ (a.osto = b.osto ∧ strLe a.name b.name = true))))) := by
  unfold trLe
  rw [lex_step, lex_step, lex_step]

theorem trLe_loc {a b : Tr} (h : trLe a b = true) : a.loc ≤ b.loc := by
  rcases (trLe_iff a b).mp h with h | ⟨h, _⟩ <;> omega

theorem trLe_total (a b : Tr) : trLe a b = true ∨ trLe b a = true := by
  rw [trLe_iff, trLe_iff]
  exact lex_total (lex_total (lex_total (by simpa using strLe_total a.name b.name)))

theorem trLe_trans {a b c : Tr} (h1 : trLe a b = true) (h2 : trLe b c = true) : trLe a c = true := by
  rw [trLe_iff] at h1 h2 ⊢
  exact lex_trans (lex_trans (lex_trans (strLe_trans a.name b.name c.name))) h1 h2

theorem trLe_antisymm {a b : Tr} (h1 : trLe a b = true) (h2 : trLe b a = true) : a = b := by
  rw [trLe_iff] at h1 h2
  obtain ⟨e1, h1, h2⟩ := lex_antisymm h1 h2
  obtain ⟨e2, h1, h2⟩ := lex_antisymm h1 h2
  obtain ⟨e3, h1, h2⟩ := lex_antisymm h1 h2
  have e4 := strLe_antisymm a.name b.name h1 h2
  cases a; cases b
  simp only at e1 e2 e3 e4
  subst e1 e2 e3 e4
  rfl

abbrev TrLe (a b : Tr) : Prop := trLe a b = true

theorem insertTr_perm (x : Tr) (l : List Tr) : (insertTr x l).Perm (x :: l) := by
  induction l with
  | nil => simp [insertTr]
  | cons y ys ih =>
    unfold insertTr
    split
    · exact List.Perm.refl _
    · exact ((List.Perm.cons y ih).trans (List.Perm.swap x y ys))

theorem sortTr_perm (l : List Tr) : (sortTr l).Perm l := by
  induction l with
  | nil => exact List.Perm.refl _
  | cons x xs ih => exact (insertTr_perm x _).trans (List.Perm.cons x ih)

theorem mem_insertTr {x y : Tr} {l : List Tr} : y ∈ insertTr x l ↔ y = x ∨ y ∈ l :=
  (insertTr_perm x l).mem_iff.trans List.mem_cons

theorem mem_sortTr {y : Tr} {l : List Tr} : y ∈ sortTr l ↔ y ∈ l :=
  (sortTr_perm l).mem_iff

theorem insertTr_sorted {x : Tr} {l : List Tr} (h : l.Pairwise TrLe) : (insertTr x l).Pairwise TrLe := by
  induction l with
  | nil => simp [insertTr]
  | cons z zs ih =>
    unfold insertTr
    rw [List.pairwise_cons] at h
    split
    · next hle =>
      refine List.Pairwise.cons ?_ (List.Pairwise.cons h.1 h.2)
      intro a ha
      rcases List.mem_cons.mp ha with rfl | ha
      · exact hle
      · exact trLe_trans hle (h.1 a ha)
    · next hle =>
      have hzx : trLe z x = true := by
        rcases trLe_total x z with h' | h'
        · exact absurd h' hle
        · exact h'
      refine List.Pairwise.cons ?_ (ih h.2)
      intro a ha
      rcases mem_insertTr.mp ha with rfl | ha
      · exact hzx
      · exact h.1 a ha

theorem sortTr_sorted (l : List Tr) : (sortTr l).Pairwise TrLe := by
  induction l with
  | nil => simp [sortTr]
  | cons z zs ih => exact insertTr_sorted ih

theorem sortTr_loc_sorted (l : List Tr) : (sortTr l).Pairwise (fun a b => a.loc ≤ b.loc) :=
  (sortTr_sorted l).imp trLe_loc

theorem sortTr_eq_of_perm {l₁ l₂ : List Tr} (h : l₁.Perm l₂) : sortTr l₁ = sortTr l₂ := by
  apply List.Perm.eq_of_pairwise (le := TrLe)
  · intro a b _ _ h1 h2; exact trLe_antisymm h1 h2
  · exact sortTr_sorted l₁
  · exact sortTr_sorted l₂
  · exact (sortTr_perm l₁).trans (h.trans (sortTr_perm l₂).symm)

theorem mem_dedup {x : Int} {l : List Int} : x ∈ dedup l ↔ x ∈ l := by
  induction l with
  | nil => simp [dedup]
  | cons y ys ih =>
    by_cases h : y ∈ ys
    · simp only [dedup, List.contains_eq_mem, h, decide_true, if_true, ih, List.mem_cons]
      exact ⟨.inr, fun hx => hx.elim (fun e => e ▸ h) id⟩
    · simp [dedup, h, ih]

theorem nodup_dedup (l : List Int) : (dedup l).Nodup := by
  induction l with
  | nil => simp [dedup]
  | cons x xs ih =>
    unfold dedup
    split
    · exact ih
    · next h =>
      refine List.nodup_cons.mpr ⟨?_, ih⟩
      rw [mem_dedup]
      simpa using h

theorem dedup_perm {a b : List Int} (h : ∀ x, x ∈ a ↔ x ∈ b) : (dedup a).Perm (dedup b) := by
  rw [List.perm_ext_iff_of_nodup (nodup_dedup a) (nodup_dedup b)]
  intro x
  rw [mem_dedup, mem_dedup]
  exact h x

theorem mem_extractOffsets {c : Tr} {o : Obs} :
    c ∈ extractOffsets o ↔ ∃ l ∈ o.onsets, c = ⟨l, roundMin o.offFrom, roundMin o.offTo, o.name⟩ := by
  simp only [extractOffsets, List.mem_map, mem_dedup, eq_comm]

theorem extractOffsets_perm {o o' : Obs} (hn : o.name = o'.name) (hf : o.offFrom = o'.offFrom)
    (ht : o.offTo = o'.offTo) (h : ∀ x, x ∈ o.onsets ↔ x ∈ o'.onsets) :
    (extractOffsets o).Perm (extractOffsets o') := by
  unfold extractOffsets
  rw [hn, hf, ht]
  exact (dedup_perm h).map _

theorem mem_sortedTrs {c : Tr} {obs : List Obs} :
    c ∈ sortedTrs obs ↔ ∃ o ∈ obs, ∃ l ∈ o.onsets, c = ⟨l, roundMin o.offFrom, roundMin o.offTo, o.name⟩ := by
  simp only [sortedTrs, mem_sortTr, List.mem_flatMap, mem_extractOffsets]

/-- replacing the onsets of every observance by a list with the same members (any order, any
    multiplicity) does not change the sorted tuple list -/
theorem sortedTrs_onset_sets (f : List Int → List Int) (hf : ∀ l x, x ∈ f l ↔ x ∈ l) (obs : List Obs) :
    sortedTrs (obs.map fun o => { o with onsets := f o.onsets }) = sortedTrs obs := by
  unfold sortedTrs
  apply sortTr_eq_of_perm
  induction obs with
  | nil => exact List.Perm.refl _
  | cons o os ih =>
    simp only [List.map_cons, List.flatMap_cons]
    exact List.Perm.append (extractOffsets_perm rfl rfl rfl (fun x => hf o.onsets x)) ih

theorem dstOf_onset_sets (f : List Int → List Int) (obs : List Obs) (nm : Str) :
    dstOf (obs.map fun o => { o with onsets := f o.onsets }) nm = dstOf obs nm := by
  unfold dstOf
  rw [← List.map_reverse, List.find?_map]
  -- the test looks at the name only
  have e : ((fun o : Obs => o.name == nm) ∘ fun o : Obs => ({ o with onsets := f o.onsets } : Obs)) =
      fun o => o.name == nm := rfl
  rw [e]
  cases List.find? (fun o => o.name == nm) obs.reverse <;> rfl

theorem firstStd_eq_find (dst : Str → Bool) (l : List Tr) :
    firstStd dst l = (l.find? fun x => !dst x.name).map (·.osto) := by
  induction l with
  | nil => rfl
  | cons x xs ih => cases h : dst x.name <;> simp [firstStd, h, ih]

theorem firstStd_none {dst : Str → Bool} {l : List Tr} :
    firstStd dst l = none ↔ ∀ x ∈ l, dst x.name = true := by
  simp [firstStd_eq_find]

theorem firstStd_of_split {dst : Str → Bool} {a b : List Tr} {x : Tr} (ha : ∀ y ∈ a, dst y.name = true)
    (hx : dst x.name = false) : firstStd dst (a ++ x :: b) = some x.osto := by
  have : a.find? (fun x => !dst x.name) = none := by simpa using ha
  simp [firstStd_eq_find, List.find?_append, this, hx]

/-- `firstStd` answers with the TZOFFSETTO of the nearest tuple that leads to standard time -/
theorem firstStd_some {dst : Str → Bool} {l : List Tr} {s : Int} :
    firstStd dst l = some s ↔
      ∃ a x b, l = a ++ x :: b ∧ (∀ y ∈ a, dst y.name = true) ∧ dst x.name = false ∧ s = x.osto := by
  simp only [firstStd_eq_find, Option.map_eq_some_iff, List.find?_eq_some_iff_append]
  constructor
  · rintro ⟨x, ⟨hx, a, b, rfl, ha⟩, rfl⟩
    exact ⟨a, x, b, rfl, by simpa using ha, by simpa using hx, rfl⟩
  · rintro ⟨a, x, b, rfl, ha, hx, rfl⟩
    exact ⟨x, ⟨by simpa using hx, a, b, rfl, by simpa using ha⟩, rfl⟩

theorem firstStd_reverse_split {dst : Str → Bool} {a b : List Tr} {x : Tr} (hb : ∀ y ∈ b, dst y.name = true)
    (hx : dst x.name = false) : firstStd dst (a ++ x :: b).reverse = some x.osto := by
  rw [List.reverse_append, List.reverse_cons, List.append_assoc]
  exact firstStd_of_split (fun y hy => hb y (by simpa using hy)) hx

theorem firstStd_reverse_none {dst : Str → Bool} {l : List Tr} (h : ∀ y ∈ l, dst y.name = true) :
    firstStd dst l.reverse = none :=
  firstStd_none.mpr (fun z hz => h z (by simpa using hz))

theorem firstStd_cons_split {dst : Str → Bool} {a b : List Tr} {c x : Tr} (hc : dst c.name = true)
    (ha : ∀ y ∈ a, dst y.name = true) (hx : dst x.name = false) :
    firstStd dst (c :: (a ++ x :: b)) = some x.osto :=
  firstStd_of_split (a := c :: a) (List.forall_mem_cons.mpr ⟨hc, ha⟩) hx

def RowOf (dst : Str → Bool) (c : Tr) (e : Ent) : Prop :=
  e.utc = c.loc - c.osfrom ∧ e.off = c.osto ∧ e.name = c.name ∧ (dst c.name = false → e.dst = 0)

theorem dstOffset_std {dst : Str → Bool} {bef aft : List Tr} {c : Tr} {d : Int}
    (h : dstOffset dst bef c aft = some d) (hs : dst c.name = false) : d = 0 := by
  unfold dstOffset at h
  simp [hs] at h
  exact h.symm

theorem dstOffset_none {dst : Str → Bool} {bef aft : List Tr} {c : Tr} :
    dstOffset dst bef c aft = none ↔
      (∀ x ∈ bef, dst x.name = true) ∧ dst c.name = true ∧ ∀ x ∈ aft, dst x.name = true := by
  have h : dstOffset dst bef c aft = none ↔
      dst c.name = true ∧ firstStd dst bef = none ∧ firstStd dst (c :: aft) = none := by
    unfold dstOffset
    by_cases hc : dst c.name = true
    · cases firstStd dst bef <;> cases firstStd dst (c :: aft) <;> simp [hc] <;> split <;> simp
    · simp [hc]
  rw [h, firstStd_none, firstStd_none, List.forall_mem_cons]
  constructor
  · rintro ⟨h1, h2, _, h3⟩; exact ⟨h2, h1, h3⟩
  · rintro ⟨h1, h2, h3⟩; exact ⟨h2, h1, h2, h3⟩

theorem infoGo_cons {dst : Str → Bool} {bef cs : List Tr} {c : Tr} {es : List Ent}
    (h : infoGo dst bef (c :: cs) = some es) : ∃ d tl, dstOffset dst bef c cs = some d ∧
      infoGo dst (c :: bef) cs = some tl ∧ es = ⟨c.loc - c.osfrom, c.osto, d, c.name⟩ :: tl := by
  unfold infoGo at h
  split at h
  · next d tl hd htl => exact ⟨d, tl, hd, htl, (Option.some.inj h).symm⟩
  · cases h

theorem infoGo_spec {dst : Str → Bool} : ∀ {l bef : List Tr} {es : List Ent}, infoGo dst bef l = some es →
    es.map (·.utc) = l.map (fun c => c.loc - c.osfrom) ∧ ∀ e ∈ es, ∃ c ∈ l, RowOf dst c e := by
  intro l
  induction l with
  | nil => intro bef es h; simp [infoGo] at h; subst h; simp
  | cons c cs ih =>
    intro bef es h
    obtain ⟨d, tl, hd, htl, rfl⟩ := infoGo_cons h
    obtain ⟨h1, h2⟩ := ih htl
    refine ⟨by simp [h1], ?_⟩
    intro e he
    rcases List.mem_cons.mp he with rfl | he
    · exact ⟨c, List.mem_cons_self, rfl, rfl, rfl, fun hs => dstOffset_std hd hs⟩
    · obtain ⟨c', hc', hr⟩ := h2 e he
      exact ⟨c', List.mem_cons_of_mem _ hc', hr⟩

/-- `get_transitions` fails (the `assert`) exactly when there is a tuple and no tuple at all leads
    to standard time -/
theorem infoGo_none {dst : Str → Bool} : ∀ (l bef : List Tr),
    infoGo dst bef l = none ↔ l ≠ [] ∧ (∀ x ∈ bef, dst x.name = true) ∧ ∀ x ∈ l, dst x.name = true := by
  intro l
  induction l with
  | nil => intro bef; simp [infoGo]
  | cons c cs ih =>
    intro bef
    have hstep : infoGo dst bef (c :: cs) = none ↔
        dstOffset dst bef c cs = none ∨ infoGo dst (c :: bef) cs = none := by
      simp only [infoGo]
      cases h1 : dstOffset dst bef c cs <;> cases h2 : infoGo dst (c :: bef) cs <;> simp
    rw [hstep, dstOffset_none, ih (c :: bef)]
    simp only [List.forall_mem_cons, ne_eq, reduceCtorEq, not_false_eq_true, true_and]
    constructor
    · rintro (⟨h1, h2, h3⟩ | ⟨_, ⟨h2, h1⟩, h3⟩) <;> exact ⟨h1, h2, h3⟩
    · exact .inl

/-- the row built for the tuple at position `pre.length`: its `before` list is the reversed prefix -/
theorem infoGo_nth {dst : Str → Bool} : ∀ {pre bef : List Tr} {cur : Tr} {post : List Tr} {es : List Ent},
    infoGo dst bef (pre ++ cur :: post) = some es →
      ∃ d, dstOffset dst (pre.reverse ++ bef) cur post = some d ∧
        es[pre.length]? = some ⟨cur.loc - cur.osfrom, cur.osto, d, cur.name⟩ := by
  intro pre
  induction pre with
  | nil =>
    intro bef cur post es h
    obtain ⟨d, tl, hd, _, rfl⟩ := infoGo_cons h
    exact ⟨d, by simpa using hd, by simp⟩
  | cons p ps ih =>
    intro bef cur post es h
    obtain ⟨d, tl, _, htl, rfl⟩ := infoGo_cons h
    obtain ⟨d', h1, h2⟩ := ih htl
    exact ⟨d', by simpa using h1, by simpa using h2⟩

theorem infoGo_length {dst : Str → Bool} : ∀ (l bef : List Tr) (es : List Ent),
    infoGo dst bef l = some es → es.length = l.length := by
  intro l bef es h
  have := (infoGo_spec h).1
  have := congrArg List.length this
  simpa using this

theorem bisectGo_spec (a : List Int) (x : Int)
    (hs : ∀ i j, i ≤ j → j < a.length → a.getD i 0 ≤ a.getD j 0) :
    ∀ (f lo hi : Nat), hi ≤ a.length → lo ≤ hi → hi < lo + f →
      (∀ i, i < lo → a.getD i 0 ≤ x) → (∀ i, hi ≤ i → i < a.length → x < a.getD i 0) →
      ∃ r, bisectGo a x f lo hi = r ∧ r ≤ hi ∧
        (∀ i, i < r → a.getD i 0 ≤ x) ∧ (∀ i, r ≤ i → i < a.length → x < a.getD i 0) := by
  intro f
  induction f with
  | zero => intro lo hi _ _ h; omega
  | succ f ih =>
    intro lo hi hhi hle hf hlo hup
    unfold bisectGo
    by_cases hlt : lo < hi
    · rw [if_pos hlt]
      have hm1 : lo ≤ (lo + hi) / 2 := (Nat.le_div_iff_mul_le (by decide)).mpr (by omega)
      have hm2 : (lo + hi) / 2 < hi := (Nat.div_lt_iff_lt_mul (by decide)).mpr (by omega)
      simp only
      -- from here on only `lo ≤ mid < hi` matters
      generalize (lo + hi) / 2 = mid at hm1 hm2 ⊢
      by_cases hx : x < a.getD mid 0
      · rw [if_pos hx]
        obtain ⟨r, hr, h2, h3, h4⟩ := ih lo mid (by omega) hm1 (by omega) hlo
          (fun i hi1 hi2 => Int.lt_of_lt_of_le hx (hs _ _ hi1 hi2))
        exact ⟨r, hr, by omega, h3, h4⟩
      · rw [if_neg hx]
        exact ih (mid + 1) hi hhi (by omega) (by omega)
          (fun i hi1 => Int.le_trans (hs i mid (by omega) (by omega)) (Int.not_lt.mp hx)) hup
    · rw [if_neg hlt]
      have : lo = hi := by omega
      subst this
      exact ⟨lo, rfl, Nat.le_refl _, hlo, hup⟩

theorem bisectRight_spec (a : List Int) (x : Int) (hs : a.Pairwise (· ≤ ·)) :
    bisectRight a x ≤ a.length ∧ (∀ i (h : i < a.length), i < bisectRight a x → a[i] ≤ x) ∧
    (∀ i (h : i < a.length), bisectRight a x ≤ i → x < a[i]) := by
  have hget : ∀ i (h : i < a.length), a.getD i 0 = a[i] := by
    intro i h; simp [List.getD_eq_getElem?_getD, h]
  have hmono : ∀ i j, i ≤ j → j < a.length → a.getD i 0 ≤ a.getD j 0 := by
    intro i j hij hj
    rcases Nat.lt_or_eq_of_le hij with h | rfl
    · rw [hget i (by omega), hget j hj]
      exact (List.pairwise_iff_getElem.mp hs) i j (by omega) hj h
    · exact Int.le_refl _
  obtain ⟨r, hr, h1, h2, h3⟩ := bisectGo_spec a x hmono (a.length + 1) 0 a.length (Nat.le_refl _) (Nat.zero_le _)
    (by omega) (fun i hi => by omega) (fun i h1 h2 => by omega)
  rw [show bisectRight a x = r from hr]
  exact ⟨h1, fun i h hi => hget i h ▸ h2 i hi, fun i h hi => hget i h ▸ h3 i hi h⟩

def IsLatest (es : List (Int × Obs)) (t : Int) (b : Int × Obs) : Prop :=
  b ∈ es ∧ b.1 ≤ t ∧ ∀ c ∈ es, c.1 ≤ t → c.1 ≤ b.1

/-- what the fold of `specAt` holds after the entries `seen` -/
def IsBest (t : Int) (seen : List (Int × Obs)) : Option (Int × Obs) → Prop
  | none => ∀ c ∈ seen, ¬ c.1 ≤ t
  | some b => IsLatest seen t b

theorem better_step {t : Int} {seen : List (Int × Obs)} {acc : Option (Int × Obs)} (e : Int × Obs)
    (h : IsBest t seen acc) : IsBest t (seen ++ [e]) (better t acc e) := by
  unfold better
  by_cases hle : e.1 ≤ t
  · rw [if_pos hle]
    cases acc with
    | none =>
      refine ⟨by simp, hle, ?_⟩
      rw [List.forall_mem_append, List.forall_mem_singleton]
      exact ⟨fun c hc hct => absurd hct (h c hc), fun _ => Int.le_refl _⟩
    | some b =>
      obtain ⟨hb, hbt, hmax⟩ := h
      simp only
      by_cases hlt : b.1 < e.1
      · rw [if_pos hlt]
        refine ⟨by simp, hle, ?_⟩
        rw [List.forall_mem_append, List.forall_mem_singleton]
        exact ⟨fun c hc hct => Int.le_trans (hmax c hc hct) (Int.le_of_lt hlt), fun _ => Int.le_refl _⟩
      · rw [if_neg hlt]
        refine ⟨List.mem_append_left _ hb, hbt, ?_⟩
        rw [List.forall_mem_append, List.forall_mem_singleton]
        exact ⟨hmax, fun _ => Int.not_lt.mp hlt⟩
  · rw [if_neg hle]
    cases acc with
    | none =>
      show ∀ c ∈ seen ++ [e], ¬ c.1 ≤ t
      rw [List.forall_mem_append, List.forall_mem_singleton]
      exact ⟨h, hle⟩
    | some b =>
      obtain ⟨hb, hbt, hmax⟩ := h
      refine ⟨List.mem_append_left _ hb, hbt, ?_⟩
      rw [List.forall_mem_append, List.forall_mem_singleton]
      exact ⟨hmax, fun h => absurd h hle⟩

theorem foldl_better (t : Int) : ∀ (es seen : List (Int × Obs)) (acc : Option (Int × Obs)),
    IsBest t seen acc → IsBest t (seen ++ es) (es.foldl (better t) acc) := by
  intro es
  induction es with
  | nil => intro seen acc h; simpa using h
  | cons e es ih =>
    intro seen acc h
    have := ih (seen ++ [e]) _ (better_step e h)
    simpa using this

theorem specAt_best (obs : List Obs) (t : Int) : IsBest t (specEntries obs) (specAt obs t) := by
  have := foldl_better t (specEntries obs) [] none (by simp [IsBest])
  rwa [List.nil_append] at this

theorem specAt_latest {obs : List Obs} {t : Int} {b : Int × Obs} (h : specAt obs t = some b) :
    IsLatest (specEntries obs) t b := by
  have := specAt_best obs t
  rwa [h] at this

theorem specAt_none {obs : List Obs} {t : Int} (h : specAt obs t = none) :
    ∀ c ∈ specEntries obs, ¬ c.1 ≤ t := by
  have := specAt_best obs t
  rwa [h] at this

theorem mem_specEntries {obs : List Obs} {p : Int × Obs} :
    p ∈ specEntries obs ↔ ∃ o ∈ obs, ∃ l ∈ o.onsets, p = (l - o.offFrom, o) := by
  simp only [specEntries, List.mem_flatMap, List.mem_map, eq_comm]

/-! ## hypotheses of the C12 theorems -/

/-- the pytz table is ascending in its UTC column -/
def SortedUTC (ts : List Ent) : Prop := (ts.map Ent.utc).Pairwise (· ≤ ·)

instance (ts : List Ent) : Decidable (SortedUTC ts) := by unfold SortedUTC; infer_instance

/-- offsets are whole minutes (the domain of the property; the pytz path rounds, dateutil does not) -/
def WholeMinutes (obs : List Obs) : Prop := ∀ o ∈ obs, o.offFrom % 60 = 0 ∧ o.offTo % 60 = 0

/-- a TZNAME is not shared by a STANDARD and a DAYLIGHT observance (the `dst` dict is keyed by name) -/
def NamesConsistent (obs : List Obs) : Prop := ∀ o ∈ obs, ∀ o' ∈ obs, o.name = o'.name → o.isDst = o'.isDst

/-- observances that start at the very same instant say the same (else "the observance in effect" is undefined) -/
def UniqueOnsets (obs : List Obs) : Prop :=
  ∀ p ∈ specEntries obs, ∀ q ∈ specEntries obs, p.1 = q.1 →
    p.2.offTo = q.2.offTo ∧ p.2.name = q.2.name ∧ p.2.isDst = q.2.isDst

/-- two onsets at different instants are further apart than the difference of their TZOFFSETFROMs -/
def WellSeparated (obs : List Obs) : Prop :=
  ∀ o ∈ obs, ∀ l ∈ o.onsets, ∀ o' ∈ obs, ∀ l' ∈ o'.onsets,
    l - roundMin o.offFrom < l' - roundMin o'.offFrom →
      roundMin o.offFrom - roundMin o'.offFrom < (l' - roundMin o'.offFrom) - (l - roundMin o.offFrom)

instance (obs : List Obs) : Decidable (WholeMinutes obs) := by unfold WholeMinutes; infer_instance
instance (obs : List Obs) : Decidable (NamesConsistent obs) := by unfold NamesConsistent; infer_instance
instance (obs : List Obs) : Decidable (WellSeparated obs) := by unfold WellSeparated; infer_instance

theorem dstOf_eq {obs : List Obs} (hn : NamesConsistent obs) {o : Obs} (ho : o ∈ obs) :
    dstOf obs o.name = o.isDst := by
  unfold dstOf
  split
  · next o' hf =>
    exact hn o' (by simpa using List.mem_of_find?_eq_some hf) o ho (by simpa using List.find?_some hf)
  · next hf =>
    rw [List.find?_eq_none] at hf
    have := hf o (by simpa using ho)
    simp at this

theorem lookup_latest {ts : List Ent} (hs : SortedUTC ts) (t : Int) (hex : ∃ e ∈ ts, e.utc ≤ t) :
    ∃ e, lookup ts t = some e ∧ e ∈ ts ∧ e.utc ≤ t ∧ ∀ e' ∈ ts, e'.utc ≤ t → e'.utc ≤ e.utc := by
  obtain ⟨hr1, hr2, hr3⟩ := bisectRight_spec (ts.map Ent.utc) t hs
  have hsorted := List.pairwise_iff_getElem.mp (List.pairwise_map.mp hs)
  unfold lookup
  generalize bisectRight (ts.map Ent.utc) t = k at hr1 hr2 hr3 ⊢
  simp only [List.length_map, List.getElem_map] at hr1 hr2 hr3
  obtain ⟨e0, he0, h0t⟩ := hex
  obtain ⟨j0, hj0, rfl⟩ := List.getElem_of_mem he0
  -- some row is not after `t`, so the search does not stop at 0
  have hk0 : k ≠ 0 := by
    intro h
    have := hr3 j0 hj0 (by omega)
    omega
  obtain ⟨i, rfl⟩ := Nat.exists_eq_succ_of_ne_zero hk0
  have hidx : i < ts.length := hr1
  refine ⟨ts[i], List.getElem?_eq_getElem hidx, List.getElem_mem _, hr2 i hidx (Nat.lt_succ_self i), ?_⟩
  intro e' he' het
  obtain ⟨j, hj, rfl⟩ := List.getElem_of_mem he'
  rcases Nat.lt_trichotomy j i with hlt | rfl | hgt
  · exact hsorted j i hj hidx hlt
  · exact Int.le_refl _
  · have := hr3 j hj hgt
    omega

theorem getTransitions_utc {obs : List Obs} {ts : List Ent} (hg : getTransitions obs = some ts) :
    ts.map Ent.utc = (sortedTrs obs).map (fun c => c.loc - c.osfrom) :=
  (infoGo_spec hg).1

theorem table_entries {obs : List Obs} {ts : List Ent} (hg : getTransitions obs = some ts)
    (hm : WholeMinutes obs) (hn : NamesConsistent obs) :
    (∀ p ∈ specEntries obs, ∃ e ∈ ts, e.utc = p.1) ∧
    (∀ e ∈ ts, ∃ o ∈ obs, (e.utc, o) ∈ specEntries obs ∧ e.off = o.offTo ∧ e.name = o.name ∧
      (o.isDst = false → e.dst = 0)) := by
  constructor
  · intro p hp
    obtain ⟨o, ho, l, hl, rfl⟩ := mem_specEntries.mp hp
    have : l - roundMin o.offFrom ∈ ts.map Ent.utc := by
      rw [getTransitions_utc hg]
      exact List.mem_map.mpr ⟨⟨l, roundMin o.offFrom, roundMin o.offTo, o.name⟩, mem_sortedTrs.mpr ⟨o, ho, l, hl, rfl⟩, rfl⟩
    obtain ⟨e, he, heq⟩ := List.mem_map.mp this
    exact ⟨e, he, by rw [heq, roundMin_id (hm o ho).1]⟩
  · intro e he
    obtain ⟨c, hc, h1, h2, h3, h4⟩ := (infoGo_spec hg).2 e he
    obtain ⟨o, ho, l, hl, rfl⟩ := mem_sortedTrs.mp hc
    refine ⟨o, ho, ?_, ?_, h3, ?_⟩
    · rw [h1]; simp only; rw [roundMin_id (hm o ho).1]
      exact mem_specEntries.mpr ⟨o, ho, l, hl, rfl⟩
    · rw [h2]; exact roundMin_id (hm o ho).2
    · intro hd; apply h4; simp only; rw [dstOf_eq hn ho]; exact hd

theorem countP_lt_of_mem {α : Type} (p q : α → Bool) (l : List α) (hpq : ∀ x, p x = true → q x = true)
    (x : α) (hx : x ∈ l) (hq : q x = true) (hp : p x = false) : l.countP p < l.countP q := by
  have e : l.filter p = (l.filter q).filter p := by
    rw [List.filter_filter]
    exact List.filter_congr fun y _ => by cases hy : p y <;> simp [hpq y, hy]
  rw [List.countP_eq_length_filter, List.countP_eq_length_filter, e, List.length_filter_lt_length_iff_exists]
  exact ⟨x, List.mem_filter.mpr ⟨hx, hq⟩, by simp [hp]⟩

/-- `_make_unique_tzname` returns a name that is not taken -/
theorem makeUnique_fresh : ∀ (f : Nat) (nm : Str) (taken : List Str),
    taken.countP (fun t => decide (nm.length ≤ t.length)) < f → makeUnique f nm taken ∉ taken := by
  intro f
  induction f with
  | zero => intro nm taken h; omega
  | succ f ih =>
    intro nm taken h
    unfold makeUnique
    by_cases hm : nm ∈ taken
    · have hc : taken.contains nm = true := by simpa using hm
      simp only [hc, if_true]
      apply ih
      -- the fuel exceeds the number of taken names at least as long as the candidate: `nm` is one of
      -- them and is shorter than the next candidate `nm ++ "_1"`, so that number falls with every retry
      have := countP_lt_of_mem (fun t => decide ((nm ++ ['_', '1']).length ≤ t.length))
        (fun t => decide (nm.length ≤ t.length)) taken
        (by intro x hx; simp at hx ⊢; omega) nm hm (by simp) (by simp)
      omega
    · have hc : taken.contains nm = false := by simpa using hm
      simp only [hc, Bool.false_eq_true, if_false]
      exact hm

/-- ... with the fuel `resolveNames` gives it -/
theorem makeUnique_fresh_length (nm : Str) (taken : List Str) : makeUnique (taken.length + 1) nm taken ∉ taken := by
  apply makeUnique_fresh
  have := List.countP_le_length (p := fun t => decide (nm.length ≤ t.length)) (l := taken)
  omega

theorem makeUnique_keep (f : Nat) (nm : Str) (taken : List Str) (h : nm ∉ taken) :
    makeUnique (f + 1) nm taken = nm := by
  simp [makeUnique, h]

theorem resolveNames_length : ∀ (os : List ObsIn) (taken : List Str), (resolveNames os taken).length = os.length := by
  intro os
  induction os with
  | nil => intro _; rfl
  | cons o os ih =>
    intro taken
    unfold resolveNames
    split <;> simp [ih]

/-- what the loop does to one component: all fields are copied, an explicit TZNAME verbatim -/
def Resolved (i : ObsIn) (o : Obs) : Prop :=
  o.isDst = i.isDst ∧ o.offFrom = i.offFrom ∧ o.offTo = i.offTo ∧ o.onsets = i.onsets ∧
  ∀ nm, i.tzname = some nm → o.name = nm

theorem resolveNames_fields : ∀ (os : List ObsIn) (taken : List Str),
    ∀ p ∈ os.zip (resolveNames os taken), Resolved p.1 p.2 := by
  intro os
  induction os with
  | nil => intro _ p hp; simp [resolveNames] at hp
  | cons o os ih =>
    intro taken p hp
    unfold resolveNames at hp
    split at hp
    · next nm h =>
      simp only [List.zip_cons_cons, List.mem_cons] at hp
      rcases hp with rfl | hp
      · exact ⟨rfl, rfl, rfl, rfl, fun nm' h' => by rw [h] at h'; cases h'; rfl⟩
      · exact ih taken p hp
    · next h =>
      simp only [List.zip_cons_cons, List.mem_cons] at hp
      rcases hp with rfl | hp
      · exact ⟨rfl, rfl, rfl, rfl, fun nm' h' => by rw [h] at h'; cases h'⟩
      · exact ih _ p hp

def genNames : List ObsIn → List Obs → List Str
  | i :: is, o :: os => if i.tzname.isNone then o.name :: genNames is os else genNames is os
  | _, _ => []

theorem genNames_fresh : ∀ (os : List ObsIn) (taken : List Str),
    (genNames os (resolveNames os taken)).Nodup ∧ ∀ n ∈ genNames os (resolveNames os taken), n ∉ taken := by
  intro os
  induction os with
  | nil => intro _; simp [genNames]
  | cons o os ih =>
    intro taken
    unfold resolveNames
    split
    · next nm h => simp only [genNames, h, Option.isNone_some, Bool.false_eq_true, if_false]; exact ih taken
    · next h =>
      simp only [genNames, h, Option.isNone_none, if_true]
      obtain ⟨h1, h2⟩ := ih (makeUnique (taken.length + 1) o.auto taken :: taken)
      refine ⟨List.nodup_cons.mpr ⟨?_, h1⟩, ?_⟩
      · intro hm; exact h2 _ hm (by simp)
      · intro n hn
        rcases List.mem_cons.mp hn with rfl | hn
        · exact makeUnique_fresh_length _ _
        · intro hm; exact h2 n hn (List.mem_cons_of_mem _ hm)

def autosOf : List ObsIn → List Str
  | [] => []
  | o :: os => if o.tzname.isNone then o.auto :: autosOf os else autosOf os

theorem genNames_eq_autos : ∀ (os : List ObsIn) (taken : List Str), (autosOf os).Nodup →
    (∀ n ∈ autosOf os, n ∉ taken) → genNames os (resolveNames os taken) = autosOf os := by
  intro os
  induction os with
  | nil => intro _ _ _; rfl
  | cons o os ih =>
    intro taken hnd hdis
    unfold resolveNames
    split
    · next nm h =>
      simp only [autosOf, h, Option.isNone_some, Bool.false_eq_true, if_false] at hnd hdis ⊢
      simp only [genNames, h, Option.isNone_some, Bool.false_eq_true, if_false]
      exact ih taken hnd hdis
    · next h =>
      simp only [autosOf, h, Option.isNone_none, if_true] at hnd hdis ⊢
      simp only [genNames, h, Option.isNone_none, if_true]
      have hk : makeUnique (taken.length + 1) o.auto taken = o.auto :=
        makeUnique_keep _ _ _ (hdis _ (by simp))
      rw [hk]
      rw [List.nodup_cons] at hnd
      congr 1
      apply ih _ hnd.2
      intro n hn hm
      rcases List.mem_cons.mp hm with rfl | hm
      · exact hnd.1 hn
      · exact hdis n (List.mem_cons_of_mem _ hn) hm

variable {δ : Type}

theorem cacheGet_append_single (c : Cache δ) (k k' : Str) (d : δ) :
    cacheGet (c ++ [(k, d)]) k' = (cacheGet c k').or (if k = k' then some d else none) := by
  induction c with
  | nil => simp [cacheGet]
  | cons p r ih =>
    obtain ⟨pk, pd⟩ := p
    simp only [List.cons_append, cacheGet]
    split
    · rfl
    · exact ih

/-- what END:VTIMEZONE does to one key of the cache: an entry that is there stays -/
theorem cacheGet_endVtz (P : Prov) (c : Cache δ) (x : Str) (d : δ) (k : Str) :
    cacheGet (endVtz P c x d) k = (cacheGet c k).or
      (if stripSlash x = k ∧ P.knows (stripSlash x) = false ∧ P.knows x = false then some d else none) := by
  unfold endVtz
  simp only
  by_cases hxk : stripSlash x = k
  · subst hxk
    cases P.knows (stripSlash x) <;> cases P.knows x <;> cases hk : cacheGet c (stripSlash x) <;>
      simp [cacheGet_append_single, hk]
  · cases P.knows (stripSlash x) <;> cases P.knows x <;> cases cacheGet c (stripSlash x) <;>
      simp [cacheGet_append_single, hxk]

theorem firstDef_append (a b : List (Item δ)) (k : Str) :
    firstDef (a ++ b) k = (firstDef a k).or (firstDef b k) := by
  induction a with
  | nil => simp [firstDef]
  | cons it r ih =>
    cases it with
    | vtz x d =>
      simp only [List.cons_append, firstDef]
      split
      · rfl
      · exact ih
    | use x => simp only [List.cons_append, firstDef]; exact ih

variable {P : Prov}

/-- the id of a VTIMEZONE can no longer change the cache -/
def Settled (P : Prov) (c : Cache δ) (x : Str) : Prop :=
  P.knows (stripSlash x) = true ∨ P.knows x = true ∨ (cacheGet c (stripSlash x)).isSome = true

theorem endVtz_settled_noop {c : Cache δ} {x : Str} (d : δ) (h : Settled P c x) :
    endVtz P c x d = c := by
  unfold endVtz
  rcases h with h | h | h
  · simp [h]
  · simp [h]
  · simp [Option.isNone_eq_false_iff.mpr h]

theorem endVtz_settles (P : Prov) (c : Cache δ) (x : Str) (d : δ) : Settled P (endVtz P c x d) x := by
  unfold Settled
  rw [cacheGet_endVtz]
  cases P.knows (stripSlash x) <;> cases P.knows x <;> cases cacheGet c (stripSlash x) <;> simp

theorem cacheAfter_keeps (P : Prov) (cal : List (Item δ)) :
    ∀ (c : Cache δ) (k : Str) (d : δ), cacheGet c k = some d → cacheGet (cacheAfter P c cal) k = some d := by
  induction cal with
  | nil => intro c k d h; exact h
  | cons it r ih =>
    intro c k d h
    cases it with
    | vtz x d' => exact ih _ k d (by rw [cacheGet_endVtz, h, Option.some_or])
    | use x => exact ih c k d h

theorem settled_mono_cacheAfter {y : Str} (cal : List (Item δ)) {c : Cache δ} (h : Settled P c y) :
    Settled P (cacheAfter P c cal) y := by
  rcases h with h | h | h
  · exact .inl h
  · exact .inr (.inl h)
  · obtain ⟨d, hd⟩ := Option.isSome_iff_exists.mp h
    exact .inr (.inr (by rw [cacheAfter_keeps P cal c _ d hd]; rfl))

theorem cacheAfter_settles : ∀ {cal : List (Item δ)} (c : Cache δ) {x : Str} {d : δ},
    Item.vtz x d ∈ cal → Settled P (cacheAfter P c cal) x := by
  intro cal
  induction cal with
  | nil => intro c x d h; cases h
  | cons it r ih =>
    intro c x d h
    rcases List.mem_cons.mp h with rfl | hm
    · exact settled_mono_cacheAfter r (endVtz_settles P c x d)
    · cases it with
      | vtz x' d' => exact ih _ hm
      | use x' => exact ih c hm

def usesOf : List (Item δ) → List Str
  | [] => []
  | .vtz _ _ :: r => usesOf r
  | .use x :: r => x :: usesOf r

theorem parse_settled : ∀ {cal : List (Item δ)} {c : Cache δ},
    (∀ x d, Item.vtz x d ∈ cal → Settled P c x) →
    cacheAfter P c cal = c ∧ parseCal P c cal = (usesOf cal).map (useTz P c) := by
  intro cal
  induction cal with
  | nil => intro c _; exact ⟨rfl, rfl⟩
  | cons it r ih =>
    intro c h
    have ih' := ih (fun x' d' hm => h x' d' (List.mem_cons_of_mem _ hm))
    cases it with
    | vtz x d =>
      simp only [cacheAfter, parseCal, usesOf]
      rw [endVtz_settled_noop d (h x d (by simp))]
      exact ih'
    | use x => exact ⟨ih'.1, by simp only [parseCal, usesOf, List.map_cons, ih'.2]⟩

/-- While a calendar is parsed in file order (`done` read, `rest` to come, `c'` the cache now, `c`
    the cache before): the cache answers with the calendar's first definition of an id, else as
    before. With every use after its VTIMEZONE and every defined id fresh, each use gets its own
    definition. -/
theorem ownDefGo_ok [DecidableEq δ] (P : Prov) (c : Cache δ) (cal : List (Item δ)) :
    ∀ (rest done : List (Item δ)) (c' : Cache δ), cal = done ++ rest →
      (∀ k, cacheGet c' k = (firstDef done k).or (cacheGet c k)) →
      vtzBeforeUse cal done rest = true → freshFor P c rest = true →
      ownDefGo P cal c' rest = true := by
  intro rest
  induction rest with
  | nil => intros; rfl
  | cons it r ih =>
    intro done c' hcal hI hv hf
    cases it with
    | vtz x d =>
      simp only [freshFor, Bool.and_eq_true, Option.isNone_iff_eq_none, Bool.not_eq_true'] at hf
      obtain ⟨⟨⟨hf1, hf2⟩, hf3⟩, hf4⟩ := hf
      refine ih (done ++ [.vtz x d]) (endVtz P c' x d) (by simp [hcal]) ?_ hv hf4
      intro k
      simp only [cacheGet_endVtz, hI, firstDef_append, Option.or_assoc]
      congr 1
      -- a fresh id enters the cache exactly when it is this VTIMEZONE's
      by_cases hxk : stripSlash x = k
      · subst hxk; simp [firstDef, hf1, hf2, hf3]
      · simp [firstDef, hxk]
    | use x =>
      simp only [vtzBeforeUse, Bool.and_eq_true, Bool.or_eq_true, Option.isNone_iff_eq_none,
        Option.isSome_iff_exists] at hv
      have hI' : ∀ k, cacheGet c' k = (firstDef (done ++ [.use x]) k).or (cacheGet c k) := by
        intro k; rw [hI, firstDef_append]; simp [firstDef]
      simp only [ownDefGo, Bool.and_eq_true, Bool.or_eq_true]
      refine ⟨?_, ih (done ++ [.use x]) c' (by simp [hcal]) hI' hv.2 hf⟩
      by_cases hp : P.provides x = true
      · exact .inl hp
      · right
        rcases hv.1 with h | ⟨d', h⟩
        · rw [h]
        · have hc : firstDef cal (stripSlash x) = some d' := by rw [hcal, firstDef_append, h]; rfl
          have hp' : P.provides x = false := by simpa using hp
          simp [hc, useTz, hp', hI, h]

end ICal.Tz
