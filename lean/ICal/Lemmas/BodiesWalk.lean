/-
  Equality of the regenerated `Component._walk` / `Component.walk` (ICal/Gen/BodiesWalk.lean,
  tools/py2lean.py: recursion over the component tree, the loop over `self.subcomponents` with
  `result += subcomponent._walk(name, select)`, the optional name, the function argument `select`)
  with the hand model `walkAux` / `walk` of ICal/Model/Walk.lean.
-/
import ICal.Gen.BodiesWalk
import ICal.Model.Walk
namespace ICal.Bodies
open ICal ICal.PyRT ICal.Gen.BodiesWalk

mutual
theorem Component__walk_eq (name : Option Str) (sel : Comp → Bool) :
    ∀ c, Component__walk c name sel = walkAux name sel c
  | .mk n p subs => by
    simp only [Component__walk, walkAux, Component__walk_loop_eq name sel subs]
    cases name with
    | none => simp
    | some k =>
      by_cases h : n = k <;> simp [h]
theorem Component__walk_loop_eq (name : Option Str) (sel : Comp → Bool) :
    ∀ (l : List Comp) (acc : List Comp), Component__walk_loop1 name sel acc l = acc ++ walkAuxL name sel l
  | [], acc => by simp [Component__walk_loop1, walkAuxL]
  | c :: cs, acc => by
    simp only [Component__walk_loop1, walkAuxL, Component__walk_eq name sel c, Component__walk_loop_eq name sel cs]
    simp
end

theorem Component_walk_eq (name : Option Str) (sel : Comp → Bool) (c : Comp) :
    Component_walk c name sel = walk name sel c := by
  obtain ⟨n, p, subs⟩ := c
  cases name <;> simp [Component_walk, walk, Component__walk_eq]

end ICal.Bodies
