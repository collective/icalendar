/-
  More lemmas for folding (C06): short lines are not folded (`foldUni_short`, `chunks_short`); the physical
  lines of a whole serialised component (`Contentlines.to_ical`) at the octet level (`splitCRLF_body_mem`).
  For the latter, what `toIcal` hands to the folder: a successful `mapM` produces every element from some
  argument (`mapM_ok_mem`), and a line built by `fromParts` has no LF (`fromParts_no_LF`).
-/
import ICal.Lemmas.FoldBytes
import ICal.Lemmas.FoldLines
import ICal.Lemmas.Line
namespace ICal

theorem foldUni_short (limit : Nat) (sep : Str) (l : Str) :
    ∀ cnt, cnt + octets l < limit → foldUni limit sep cnt l = l := by
  induction l with
  | nil => intro cnt _; simp [foldUni]
  | cons c cs ih =>
    intro cnt h
    rw [octets_cons] at h
    have h1 : ¬ (cnt + w c ≥ limit) := by omega
    simp only [foldUni, h1, if_false]
    rw [ih (cnt + w c) (by omega)]

theorem chunks_short (n : Nat) (l : Str) (hne : l ≠ []) (h : l.length ≤ n) : chunks n l = [l] := by
  have hn : n ≠ 0 := by
    intro e; subst e
    exact hne (List.eq_nil_of_length_eq_zero (by omega))
  rw [chunks.eq_1]
  have h0 : ¬ (n = 0 ∨ l = []) := by simp [hn, hne]
  rw [dif_neg h0, List.take_of_length_le h, List.drop_eq_nil_of_le h, chunks.eq_1]
  simp

theorem splitCRLF_append_mem (a t : List UInt8) :
    ∀ p ∈ splitCRLF (a ++ 13 :: 10 :: t), p ∈ splitCRLF a ∨ p ∈ splitCRLF t := by
  obtain ⟨init, last, h1, h2⟩ := splitCRLF_append a t
  intro p hp
  rw [h2] at hp; rw [h1]
  simp only [List.mem_append, List.mem_cons, List.not_mem_nil, or_false] at hp ⊢
  rcases hp with hp | hp | hp
  · exact Or.inl (Or.inl hp)
  · exact Or.inl (Or.inr hp)
  · exact Or.inr hp

theorem utf8_crlf_cons (t : Str) : utf8 (CR :: LF :: t) = 13 :: 10 :: utf8 t := by
  have : utf8 (CR :: LF :: t) = utf8 [CR, LF] ++ utf8 t := by rw [← utf8_append]; rfl
  rw [this]
  have : utf8 [CR, LF] = [13, 10] := by decide
  rw [this]; rfl

theorem splitCRLF_body_mem (fs : List Str) :
    ∀ p ∈ splitCRLF (utf8 (body fs)), p = [] ∨ ∃ f ∈ fs, p ∈ splitCRLF (utf8 f) := by
  induction fs with
  | nil => intro p hp; simp [body, utf8, splitCRLF] at hp; exact Or.inl hp
  | cons f fs ih =>
    intro p hp
    rw [body_cons, utf8_append, utf8_crlf_cons] at hp
    rcases splitCRLF_append_mem _ _ p hp with hp | hp
    · exact Or.inr ⟨f, by simp, hp⟩
    · rcases ih p hp with h | ⟨g, hg, hpg⟩
      · exact Or.inl h
      · exact Or.inr ⟨g, by simp [hg], hpg⟩

theorem fromParts_no_LF (n : Str) (p : Params) (v : Str) (sorted : Bool) (l : Str)
    (h : fromParts n p v sorted = .ok l) : LF ∉ l := by
  rw [fromParts_eq] at h
  intro hm
  rw [mkLine_inv _ _ h] at hm
  rw [mkLine_lf _ hm] at h
  cases h

theorem mapM_ok_mem {α β ε : Type} (f : α → Except ε β) :
    ∀ (xs : List α) (ys : List β), xs.mapM f = .ok ys → ∀ y ∈ ys, ∃ x ∈ xs, f x = .ok y := by
  intro xs
  induction xs with
  | nil => intro ys h y hy; simp [List.mapM_nil, pure, Except.pure] at h; subst h; simp at hy
  | cons x xs ih =>
    intro ys h y hy
    rw [List.mapM_cons] at h
    cases hx : f x with
    | error e => rw [hx] at h; simp [bind, Except.bind] at h
    | ok b =>
      rw [hx] at h
      cases hxs : xs.mapM f with
      | error e => rw [hxs] at h; simp [bind, Except.bind] at h
      | ok bs =>
        rw [hxs] at h
        simp [bind, Except.bind, pure, Except.pure] at h
        subst h
        rcases List.mem_cons.mp hy with rfl | hy
        · exact ⟨x, by simp, hx⟩
        · obtain ⟨x', hx', hfx'⟩ := ih bs hxs y hy
          exact ⟨x', by simp [hx'], hfx'⟩

end ICal
