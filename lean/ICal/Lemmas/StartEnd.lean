/-
  Helper lemmas for C16 about the start/end/duration model (ICal/Model/StartEnd.lean).
-/
import ICal.Model.StartEnd
namespace ICal.SE

theorem bind_error {ε α β : Type} {x : Except ε α} {f : α → Except ε β} {e : ε} (h : x.bind f = .error e) :
    x = .error e ∨ ∃ a, x = .ok a ∧ f a = .error e := by
  cases x with
  | error e' => cases h; exact Or.inl rfl
  | ok a => exact Or.inr ⟨a, rfl, h⟩

theorem bind_ok {ε α β : Type} {x : Except ε α} {f : α → Except ε β} {b : β} (h : x.bind f = .ok b) :
    ∃ a, x = .ok a ∧ f a = .ok b := by
  cases x with
  | error e => cases h
  | ok a => exact ⟨a, rfl, h⟩

theorem getProp_err {sl : Slot} {e : Err} (h : getProp sl = .error e) : e = .invalidCalendar := by
  unfold getProp at h
  split at h
  · simp at h
  · simp at h; exact h.symm
  · split at h <;> simp at h; exact h.symm

theorem getDur_err {sl : Slot} {e : Err} (h : getDur sl = .error e) : e = .invalidCalendar := by
  unfold getDur at h
  split at h <;> simp at h <;> exact h.symm

theorem getSED_ok_iff {c : Cls} {s : St} {st en : Option Val} {du : Option Int} :
    getSED c s = .ok (st, en, du) ↔
      getProp s.dtstart = .ok st ∧ getProp (s.get (endKey c)) = .ok en ∧ getDur s.duration = .ok du ∧
        forbidden st en du = false := by
  unfold getSED
  constructor
  · intro h
    obtain ⟨st', h1, h⟩ := bind_ok h
    obtain ⟨en', h2, h⟩ := bind_ok h
    obtain ⟨du', h3, h⟩ := bind_ok h
    -- the final `if` answers `.ok` only on its else side, with the three values just read
    by_cases hf : forbidden st' en' du' = true
    · rw [if_pos hf] at h; cases h
    · rw [if_neg hf] at h; cases h
      exact ⟨h1, h2, h3, Bool.eq_false_iff.mpr hf⟩
  · rintro ⟨h1, h2, h3, hf⟩
    rw [h1, h2, h3]
    exact if_neg (Bool.eq_false_iff.mp hf)

theorem getSED_err {c : Cls} {s : St} {e : Err} (h : getSED c s = .error e) : e = .invalidCalendar := by
  unfold getSED at h
  rcases bind_error h with h1 | ⟨st, _, h⟩
  · exact getProp_err h1
  rcases bind_error h with h2 | ⟨en, _, h⟩
  · exact getProp_err h2
  rcases bind_error h with h3 | ⟨du, _, h⟩
  · exact getDur_err h3
  split at h <;> cases h
  rfl

theorem getProp_ok_some {sl : Slot} {v : Val} (h : getProp sl = .ok (some v)) : sl = .one v ∧ v.isDT = true := by
  unfold getProp at h
  split at h
  · simp at h
  · simp at h
  · split at h <;> simp at h; subst h; simp [*]

theorem getProp_one_ok {a : Val} {o : Option Val} (h : getProp (.one a) = .ok o) : o = some a := by
  simp only [getProp] at h
  split at h
  · simp at h; exact h.symm
  · simp at h

theorem getProp_ok_none {sl : Slot} (h : getProp sl = .ok none) : sl = .absent := by
  unfold getProp at h
  split at h
  · rfl
  · simp at h
  · split at h <;> simp at h

theorem getDur_ok_some {sl : Slot} {x : Int} (h : getDur sl = .ok (some x)) : sl = .one (.dur x) := by
  unfold getDur at h
  split at h <;> simp at h; subst h; rfl

theorem getDur_ok_none {sl : Slot} (h : getDur sl = .ok none) : sl = .absent := by
  unfold getDur at h
  split at h <;> simp at h; rfl

/-- `.start` after the checks -/
def startOf : Option Val → Except Err Val
  | none => .error .incompleteComponent
  | some v => .ok v

theorem getStart_journal (s : St) : getStart .journal s = (getProp s.dtstart).bind startOf := rfl

theorem getStart_eq {c : Cls} {s : St} (hc : c ≠ .journal) : getStart c s = (getSED c s).bind (fun t => startOf t.1) := by
  cases c with
  | journal => exact absurd rfl hc
  | _ => rfl

theorem getEnd_eq {c : Cls} {s : St} (hc : c ≠ .journal) :
    getEnd c s = (getSED c s).bind (fun t => endOf t.1 t.2.1 t.2.2) := by
  cases c with
  | journal => exact absurd rfl hc
  | _ => rfl

theorem getDuration_eq {p : Prov} {c : Cls} {s : St} (hc : c ≠ .journal) :
    getDuration p c s = (getEnd c s).bind (fun e => (getStart c s).bind (fun v => Val.sub p e v)) := by
  cases c <;> simp [getDuration, bind] at *


theorem endOf_dur (v : Val) (en : Option Val) (x : Int) : endOf (some v) en (some x) = .ok (v.addDur x) := by
  cases en <;> rfl

theorem of_getStart_ok {c : Cls} {s : St} {st : Val} (hc : c ≠ .journal) (hs : getStart c s = .ok st) :
    ∃ en du, (s.dtstart = .one st ∧ st.isDT = true) ∧ getProp (s.get (endKey c)) = .ok en ∧ getDur s.duration = .ok du ∧
      forbidden (some st) en du = false ∧ getEnd c s = endOf (some st) en du ∧
      ∀ p, getDuration p c s = (endOf (some st) en du).bind (fun e => Val.sub p e st) := by
  rw [getStart_eq hc] at hs
  obtain ⟨⟨so, en, du⟩, hh, hs⟩ := bind_ok hs
  cases so with
  | none => cases hs
  | some v =>
    cases hs
    obtain ⟨h1, h2, h3, h4⟩ := getSED_ok_iff.mp hh
    exact ⟨en, du, getProp_ok_some h1, h2, h3, h4, by rw [getEnd_eq hc, hh]; rfl,
      fun p => by rw [getDuration_eq hc, getEnd_eq hc, getStart_eq hc, hh]; rfl⟩

theorem date_duration_whole {v : Val} {en : Option Val} {x : Int} (h : forbidden (some v) en (some x) = false)
    (hd : v.isDate = true) : x % 86400 = 0 := by
  cases v <;> cases hd
  cases en with
  | none => simpa [forbidden, dateWithTime, kindMismatch, tzMismatch] using h
  | some e => cases h

theorem sub_addDur (p : Prov) {v : Val} (x : Int) (hv : v.isDT = true) (hd : v.isDate = true → x % 86400 = 0) :
    Val.sub p (v.addDur x) v = .ok x := by
  cases v <;> cases hv
  · have := hd rfl
    simp only [Val.addDur, Val.sub]; congr 1; omega
  · simp only [Val.addDur, Val.sub]; congr 1; omega
  · simp [Val.addDur, Val.sub, Val.isAware, Val.sameTz, Val.wall]; omega
  · simp [Val.addDur, Val.sub, Val.isAware, Val.sameTz, Val.wall, Val.offset]; split <;> omega

theorem sub_self (p : Prov) {v : Val} (hv : v.isDT = true) : Val.sub p v v = .ok 0 := by
  cases v <;> simp [Val.isDT, Val.isDate, Val.isDatetime] at hv <;>
    simp [Val.sub, Val.isAware, Val.sameTz, Val.wall, Val.offset]

theorem endOf_defined (p : Prov) {v : Val} {en : Option Val} {du : Option Int} (hv : v.isDT = true)
    (hen : ∀ e, en = some e → e.isDT = true) (hf : forbidden (some v) en du = false) :
    ∃ e, endOf (some v) en du = .ok e ∧ ∃ d, Val.sub p e v = .ok d := by
  cases en with
  | none =>
    cases du with
    | none =>
      by_cases hd : v.isDate = true
      · exact ⟨v.addDur 86400, if_pos hd, 86400, sub_addDur p 86400 hv (fun _ => rfl)⟩
      · exact ⟨v, if_neg hd, 0, sub_self p hv⟩
    | some x =>
      exact ⟨v.addDur x, endOf_dur v none x, x, sub_addDur p x hv (date_duration_whole hf)⟩
  | some e =>
    have he := hen e rfl
    cases du with
    | some x => simp [forbidden] at hf
    | none =>
      refine ⟨e, rfl, ?_⟩
      -- same kind, and for two datetimes the same answer to `tzinfo is None`: `-` is defined
      have hk : (v.isDate != e.isDate) = false ∧
          (v.isDatetime && e.isDatetime && (v.isFloating != e.isFloating)) = false := by
        simpa [forbidden, dateWithTime, kindMismatch, tzMismatch] using hf
      cases v <;> cases hv <;> cases e <;> cases he <;>
        simp [Val.isDate, Val.isDatetime, Val.isFloating] at hk <;> exact ⟨_, rfl⟩


/-! Bridge to the generated table: what `exclusive` of each class is in cal.py *now*.  These are re-checked
    against the regenerated `Gen.compClasses` on every run; `inv_step` below is proved through them, so an edit
    of `Event.exclusive` / `Todo.exclusive` in cal.py that changes the group breaks a proof obligation. -/
theorem exclusive_event : exclusive .event = [.dtend, .duration] := by decide
theorem exclusive_todo : exclusive .todo = [.due, .duration] := by decide
theorem exclusive_journal : exclusive .journal = [] := by decide

/-! `Inv` looks at DTEND, DUE and DURATION only, and holds as soon as DURATION, or both end entries, are absent. -/

theorem inv_of_duration_absent {s : St} (h : s.duration = .absent) : Inv s := by
  simp [Inv, h, Slot.present]

theorem inv_of_ends_absent {s : St} (h1 : s.dtend = .absent) (h2 : s.due = .absent) : Inv s := by
  simp [Inv, h1, h2, Slot.present]

theorem inv_put_absent {s : St} (k : Key) (hi : Inv s) : Inv (s.put k .absent) := by
  cases k
  · exact hi
  · exact ⟨fun h => Bool.noConfusion h.1, hi.2⟩
  · exact ⟨hi.1, fun h => Bool.noConfusion h.1⟩
  · exact inv_of_duration_absent rfl

theorem popOthers_dtstart (c : Cls) (s : St) : popOthers c .dtstart s = s := by
  cases c <;> simp [popOthers, exclusive_event, exclusive_todo, exclusive_journal]

theorem popOthers_endKey {c : Cls} (hc : c ≠ .journal) (s : St) : popOthers c (endKey c) s = s.put .duration .absent := by
  cases c with
  | event => simp [popOthers, exclusive_event, endKey]
  | todo => simp [popOthers, exclusive_todo, endKey]
  | journal => exact absurd rfl hc

theorem pSet_cases (c : Cls) (s : St) (k : Key) (x : Arg) :
    pSet c s k x = .error .typeError ∨ pSet c s k x = .ok (s.put k .absent) ∨
      ∃ v, pSet c s k x = .ok (popOthers c k (s.put k (.one v))) := by
  cases x with
  | none => exact Or.inr (Or.inl rfl)
  | wrong => exact Or.inl rfl
  | val v =>
    simp only [pSet]
    split
    · exact Or.inr (Or.inr ⟨v, rfl⟩)
    · exact Or.inl rfl

theorem setDuration_err {s : St} {x : Arg} {e : Err} (h : setDuration s x = .error e) : e = .typeError := by
  cases x with
  | none => cases h
  | wrong => cases h; rfl
  | val v => cases v <;> cases h <;> rfl

theorem target_key {c : Cls} {a : Acc} {k : Key} (h : target c a = some k) :
    k = .dtstart ∨ k = .duration ∨ (c ≠ .journal ∧ k = endKey c) := by
  cases a with
  | start => cases h; exact Or.inl rfl
  | «end» => cases c <;> cases h <;> simp [endKey]
  | prop k' =>
    simp only [target] at h
    split at h <;> cases h
    rename_i hd
    cases c <;> cases k <;> simp [descr, endKey] at hd ⊢

/-- Storing an end value is safe because `exclusive` makes `p_set` pop DURATION. -/
theorem inv_step (c : Cls) (s : St) (op : Op) (he : op.isEdit = true) (hi : Inv s) : Inv (next c s op) := by
  unfold next
  cases h : step c s op with
  | error _ => exact hi
  | ok s' =>
    show Inv s'
    cases op with
    | add k x => cases he
    | del k =>
      simp only [step] at h
      split at h <;> cases h
      exact inv_put_absent k hi
    | set a x =>
      simp only [step] at h
      cases ht : target c a with
      | none => rw [ht] at h; cases h; exact hi
      | some k =>
        rw [ht] at h
        obtain rfl | rfl | ⟨hc, rfl⟩ := target_key ht
        · rcases pSet_cases c s .dtstart x with h' | h' | ⟨v, h'⟩ <;> cases h'.symm.trans h
          · exact hi
          · rw [popOthers_dtstart]; exact hi
        · cases x with
          | none => cases h; exact inv_put_absent .duration hi
          | wrong => cases h
          | val v => cases v <;> cases h; exact inv_of_ends_absent rfl rfl
        · have h : pSet c s (endKey c) x = .ok s' := by
            cases c with
            | journal => exact absurd rfl hc
            | _ => exact h
          rcases pSet_cases c s (endKey c) x with h' | h' | ⟨v, h'⟩ <;> cases h'.symm.trans h
          · exact inv_put_absent _ hi
          · rw [popOthers_endKey hc]; exact inv_of_duration_absent rfl

theorem getProp_present {sl : Slot} {o : Option Val} (h : getProp sl = .ok o) (hp : sl.present = true) :
    ∃ v, o = some v ∧ sl = .one v := by
  cases o with
  | none => rw [getProp_ok_none h] at hp; cases hp
  | some v => exact ⟨v, rfl, (getProp_ok_some h).1⟩

theorem getDur_present {sl : Slot} {o : Option Int} (h : getDur sl = .ok o) (hp : sl.present = true) :
    ∃ x, o = some x := by
  cases o with
  | none => rw [getDur_ok_none h] at hp; cases hp
  | some x => exact ⟨x, rfl⟩

theorem sed_error_all (p : Prov) {c : Cls} {s : St} {e : Err} (hc : c ≠ .journal) (h : getSED c s = .error e) :
    getStart c s = .error .invalidCalendar ∧ getEnd c s = .error .invalidCalendar ∧
      getDuration p c s = .error .invalidCalendar := by
  have := getSED_err h; subst this
  exact ⟨by rw [getStart_eq hc, h]; rfl, by rw [getEnd_eq hc, h]; rfl, by rw [getDuration_eq hc, getEnd_eq hc, h]; rfl⟩

theorem bind_sed_err {α : Type} {c : Cls} {s : St} {f : Option Val × Option Val × Option Int → Except Err α} {e : Err}
    (hf : ∀ t, f t = .error e → e = .incompleteComponent) (h : (getSED c s).bind f = .error e) :
    e = .invalidCalendar ∨ e = .incompleteComponent := by
  rcases bind_error h with hh | ⟨t, _, ht⟩
  · exact Or.inl (getSED_err hh)
  · exact Or.inr (hf t ht)

theorem forbidden_reported (p : Prov) {c : Cls} {s : St} (hc : c ≠ .journal)
    (h : ∀ st en du, getProp s.dtstart = .ok st → getProp (s.get (endKey c)) = .ok en → getDur s.duration = .ok du →
      forbidden st en du = true) :
    getStart c s = .error .invalidCalendar ∧ getEnd c s = .error .invalidCalendar ∧
      getDuration p c s = .error .invalidCalendar := by
  cases hh : getSED c s with
  | error e => exact sed_error_all p hc hh
  | ok t =>
    obtain ⟨st, en, du⟩ := t
    obtain ⟨h1, h2, h3, h4⟩ := getSED_ok_iff.mp hh
    rw [h st en du h1 h2 h3] at h4; cases h4

/-- the same on what is stored: an entry holding one value is read as that value, if it is read at all -/
theorem forbidden_reported_stored (p : Prov) {c : Cls} {s : St} (hc : c ≠ .journal)
    (h : ∀ st en du, (∀ a, s.dtstart = .one a → st = some a) → (∀ b, s.get (endKey c) = .one b → en = some b) →
      (∀ x, s.duration = .one (.dur x) → du = some x) → forbidden st en du = true) :
    getStart c s = .error .invalidCalendar ∧ getEnd c s = .error .invalidCalendar ∧
      getDuration p c s = .error .invalidCalendar := by
  refine forbidden_reported p hc fun st en du h1 h2 h3 => h st en du ?_ ?_ ?_
  · intro a ha; rw [ha] at h1; exact getProp_one_ok h1
  · intro b hb; rw [hb] at h2; exact getProp_one_ok h2
  · intro x hx; rw [hx] at h3; cases h3; rfl

theorem startOf_err {st : Option Val} {e : Err} (h : startOf st = .error e) : e = .incompleteComponent := by
  cases st <;> simp [startOf] at h; exact h.symm

theorem endOf_err {st en : Option Val} {du : Option Int} {e : Err} (h : endOf st en du = .error e) :
    e = .incompleteComponent := by
  cases st with
  | none => cases en <;> cases du <;> cases h <;> rfl
  | some v =>
    cases du with
    | some x => cases en <;> cases h
    | none =>
      cases en with
      | some e' => cases h
      | none => simp only [endOf] at h; split at h <;> cases h

end ICal.SE
