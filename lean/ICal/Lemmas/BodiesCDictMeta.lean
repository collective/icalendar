/-
  The regenerated `CaselessDict.__ne__`, `__eq__`, `sorted_keys`, `sorted_items` (ICal/Gen/BodiesCDictMeta.lean,
  tools/py2lean.py) against the hand model of ICal/Model/CDict.lean.  These methods are thin: what they compare and sort
  with is external, given here BY NAME as the model has it (`cdEq`, `canonsort`, `cdSortedItems`).  What the translation
  pins is their shape - `__ne__` is the negation of `==`; `__eq__` answers True for the same object, NotImplemented
  (`none`) for an operand without `items`, and the comparison of the two plain dicts otherwise; `sorted_keys` sorts
  `self.keys()` by `self.canonical_order` - and their PRESENCE: a method removed from the class makes the translation
  fail, which breaks the tie of C17.
-/
import ICal.Gen.BodiesCDictMeta
import ICal.Model.CDict
namespace ICal.Bodies
open ICal ICal.PyRT ICal.CDict ICal.Gen.BodiesCDictMeta

variable {V : Type} [DecidableEq V]

/-- `__ne__` on a mapping operand is the negation of the model's `cdEq` -/
theorem cd_ne_eq (up : Str → Str) (s : Store V) (other : List (Str × V)) :
    cd_ne (self_ := s) (other := other) (eq_other := fun s o => cdEq up s o) = !cdEq up s other := rfl

/-- `__eq__` on another mapping (not the same object) is the model's `cdEq` -/
theorem cd_eq_mapping (up : Str → Str) (s : Store V) (other : List (Str × V)) :
    cd_eq (self_ := s) (other := other) (same_object := fun _ _ => false) (has_items := fun _ => true)
      (dict_eq := fun s o => cdEq up s o) = some (cdEq up s other) := rfl

/-- the same object is equal; an operand without `items` gives NotImplemented -/
theorem cd_eq_shape {S O : Type} (s : S) (o : O) (hi : O → Bool) (de : S → O → Bool) :
    cd_eq (self_ := s) (other := o) (same_object := fun _ _ => true) (has_items := hi) (dict_eq := de) = some true ∧
    cd_eq (self_ := s) (other := o) (same_object := fun _ _ => false) (has_items := fun _ => false) (dict_eq := de) = none :=
  ⟨rfl, rfl⟩

set_option linter.unusedSectionVars false in
/-- `sorted_keys()` is `canonsort` of the stored keys by the class's order -/
theorem cd_sorted_keys_eq (s : Store V) (order : List Str) :
    cd_sorted_keys (self_ := s) (keys := fun s => odKeys s) (canonical_order := fun _ => order)
      (canonsort_keys := fun ks o => canonsort ks o) = canonsort (odKeys s) order := rfl

set_option linter.unusedSectionVars false in
/-- `sorted_items()` is `canonsort_items(self, self.canonical_order)` -/
theorem cd_sorted_items_eq (up : Str → Str) (s : Store V) (order : List Str) :
    cd_sorted_items (self_ := s) (canonical_order := fun _ => order) (canonsort_items := fun s o => cdSortedItems up s o) =
      cdSortedItems up s order := rfl

end ICal.Bodies
