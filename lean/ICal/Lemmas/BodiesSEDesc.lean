/-
  Equality of the regenerated descriptor closures `p_set` / `p_del` of `create_single_property` and of `_set_duration` /
  `_del_duration` (ICal/Gen/BodiesSEDesc.lean, tools/py2lean.py) with the hand model ICal/Model/StartEnd.lean (`pSet`,
  `setDuration`, the deleter step of `step`), for the pieces of ICal/Model/SEDescPieces.lean.
-/
import ICal.Model.SEDescPieces
import ICal.Lemmas.StartEnd
import ICal.Lemmas.BodiesRT
namespace ICal.Bodies
open ICal ICal.PyRT ICal.SE ICal.Gen.BodiesSEDesc

theorem keyOf_upper_keyName (k : Key) : keyOfName (upper (keyName k)) = some k := by cases k <;> decide

theorem keyName_inj (a b : Key) : keyName a = keyName b ↔ a = b :=
  ⟨fun h => Option.some.inj (by rw [← keyOf_upper_keyName a, h, keyOf_upper_keyName]), congrArg keyName⟩

theorem keyName_bne (a b : Key) : (keyName a != keyName b) = (a != b) := by
  have h : (keyName a == keyName b) = (a == b) := by
    rw [Bool.eq_iff_iff, beq_iff_eq, beq_iff_eq]; exact keyName_inj a b
  rw [bne, bne, h]

/-- the regenerated `exclusive` tuples hold names of the four modelled entries only -/
theorem exclNames_eq (c : Cls) : exclNames c = (exclusive c).map keyName := by
  cases c
  · rw [exclusive_event]; decide
  · rw [exclusive_todo]; decide
  · rw [exclusive_journal]; decide

/-- the model's `exclusive` is the regenerated tuple seen through `keyOfName` -/
theorem exclusive_eq (c : Cls) : exclusive c = (exclNames c).filterMap keyOfName := by
  unfold exclusive exclNames
  generalize List.find? _ _ = o
  cases o <;> rfl

theorem sePop_keyName (s : St) (k : Key) : sePop s (keyName k) = s.put k .absent := by
  simp [sePop, keyOf_upper_keyName]

theorem seSetItem_keyName (s : St) (k : Key) (x : Slot) : seSetItem s (keyName k) x = s.put k x := by
  simp [seSetItem, keyOf_upper_keyName]

theorem p_del_eq (s : St) (k : Key) : pDelB s k = s.put k .absent := sePop_keyName s k

theorem del_duration_eq (s : St) : delDurationB s = s.put .duration .absent := sePop_keyName s .duration

theorem set_duration_eq (s : St) (x : Arg) : setDurationB s x = seLift (setDuration s x) := by
  have h1 : keyOfName (upper (['d', 'u', 'r', 'a', 't', 'i', 'o', 'n'] : Str)) = some .duration := by decide
  cases x with
  | none => simp [setDurationB, set_duration, argOpt, sePopD, sePop, h1, setDuration, seLift, pure, Except.pure]
  | wrong => rfl
  | val v =>
    cases v with
    | dur x =>
      simp only [setDurationB, set_duration, argOpt, seIsTd, seWrapDur, seWrap, seSetItem, h1, bind, Except.bind]
      show Except.ok (sePop (sePop _ (keyName .dtend)) (keyName .due)) = _
      rw [sePop_keyName, sePop_keyName]; rfl
    | _ => rfl

theorem p_set_loop_eq (k : Key) (ks : List Key) (s : St) :
    p_set_loop1 (keyName k) sePopD s (ks.map keyName) =
      .ok (ks.foldl (fun s o => if o != k then s.put o .absent else s) s) := by
  induction ks generalizing s with
  | nil => rfl
  | cons o rest ih =>
    simp only [List.map_cons, p_set_loop1, List.foldl_cons, ih, sePopD, sePop_keyName, keyName_bne]

theorem contains_keyName (k : Key) (ks : List Key) : (ks.map keyName).contains (keyName k) = ks.contains k := by
  simp [List.contains_eq_mem, List.mem_map, keyName_inj]

theorem p_set_eq (c : Cls) (s : St) (k : Key) (x : Arg) : pSetB c s k x = seLift (pSet c s k x) := by
  cases x with
  | none => exact congrArg Except.ok (sePop_keyName s k)
  | wrong => rfl
  | val v =>
    by_cases hv : v.isDT = true
    · simp only [pSetB, p_set, argOpt, seIsDT, hv, seWrap, seSetItem_keyName, exclNames_eq, contains_keyName, p_set_loop_eq,
        pSet, popOthers, bind, Except.bind, pure, Except.pure]
      cases (exclusive c).contains k <;> rfl
    · simp [pSetB, p_set, argOpt, seIsDT, hv, pSet, seLift, throw_eq, seExc]

theorem step_eq (c : Cls) (s : St) (op : Op) : stepB c s op = seLift (step c s op) := by
  cases op with
  | set a x =>
    simp only [stepB, step]
    generalize target c a = t
    cases t with
    | none => rfl
    | some k =>
      cases k with
      | duration => exact set_duration_eq s x
      | _ => exact p_set_eq c s _ x
  | del k =>
    simp only [stepB, step]
    by_cases hd : descr c k = true
    · by_cases hk : k = .duration
      · subst hk; simp [hd, del_duration_eq, seLift]
      · simp [hd, hk, p_del_eq, seLift]
    · simp [hd, seLift, seExc]
  | add k x => rfl

end ICal.Bodies
